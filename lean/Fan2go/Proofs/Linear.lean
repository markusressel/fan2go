/-
  The min/max form of `LinearSpeedCurve.Evaluate` (`linMinMax`): between the two saturation
  branches the float64 computation is the rational `linMid` (four roundings) followed by a
  truncation; range, monotonicity and distance from the exact linear function follow on rationals.
-/
import Fan2go.Proofs.F64Ops
import Fan2go.Proofs.FoldMinMax
import Fan2go.Model.Curves

namespace Fan2go
open F64

/-- the float64 value of the Go expression `float64(n) * 1000`. -/
def kTemp (n : Int) : ℚ := fl64 (fl64 (n : ℚ) * 1000)

theorem kTemp_mono {m n : Int} (h : m ≤ n) : kTemp m ≤ kTemp n := by
  unfold kTemp
  apply fl64_mono
  have : fl64 (m : ℚ) ≤ fl64 (n : ℚ) := fl64_mono (by exact_mod_cast h)
  linarith

/-- `2^73`: a Go `int` is at most `2^63` in magnitude, and `1000 ≤ 2^10`. -/
theorem kTemp_arg_abs_le {n : Int} (h : |n| ≤ 2 ^ 63) : |fl64 (n : ℚ) * 1000| ≤ 2 ^ 73 := by
  have h1 := abs_fl64_le_two_pow 63 (x := (n : ℚ)) (by exact_mod_cast h)
  rw [abs_mul, abs_of_pos (by norm_num : (0 : ℚ) < 1000)]
  calc |fl64 (n : ℚ)| * 1000 ≤ 2 ^ 63 * 2 ^ 10 :=
        mul_le_mul h1 (by norm_num) (by norm_num) (by positivity)
    _ = 2 ^ 73 := by norm_num

theorem kTemp_abs_le {n : Int} (h : |n| ≤ 2 ^ 63) : |kTemp n| ≤ 2 ^ 73 :=
  abs_fl64_le_two_pow 73 (kTemp_arg_abs_le h)

theorem ofInt_mul_1000 {n : Int} (h : |n| ≤ 2 ^ 63) : ofInt n * ofInt 1000 = fin (kTemp n) := by
  rw [ofInt_fin_of_int64 h, ofInt_1000, mul_fin_fin]
  exact ofRat_fin_of_abs_le_two_pow 73 (kTemp_arg_abs_le h)

theorem kTemp_exact {n : Int} (h : |n| ≤ 2 ^ 43) : kTemp n = (n : ℚ) * 1000 := by
  unfold kTemp
  rw [fl64_intCast n (h.trans (by norm_num)),
    show (n : ℚ) * 1000 = ((n * 1000 : Int) : ℚ) by push_cast; ring]
  exact fl64_intCast _ (by rw [abs_mul, show |(1000 : Int)| = 1000 from rfl]; linarith)

/-- `float64` value of `(avg - minTemp) / (maxTemp - minTemp) * 255` for finite operands. -/
def linMid (q m X : ℚ) : ℚ := fl64 (fl64 (fl64 (q - m) / fl64 (X - m)) * 255)

theorem fl64_unit_mul_255 {r : ℚ} (h0 : 0 ≤ r) (h1 : r ≤ 1) :
    0 ≤ fl64 (r * 255) ∧ fl64 (r * 255) ≤ 255 :=
  fl64_unit_mul_mem h0 h1 (rep64_ofNat 255 (by norm_num)) (by norm_num)

/-- `int(r * 255)` for a ratio in `[0, 1]`: the last two steps of the min/max form and of the PID
    curve. -/
theorem toInt_unit_mul_255 (indef : Int) {r : ℚ} (h0 : 0 ≤ r) (h1 : r ≤ 1) :
    toInt indef (fin r * fin 255) = truncRat (fl64 (r * 255)) ∧
      0 ≤ truncRat (fl64 (r * 255)) ∧ truncRat (fl64 (r * 255)) ≤ 255 := by
  obtain ⟨a, b⟩ := fl64_unit_mul_255 h0 h1
  rw [mul_fin_fin, ofRat_fin_of_abs_le_two_pow 8 (by rw [abs_of_nonneg (by positivity)]; linarith)]
  exact toInt_fin_of_bounds indef (lo := 0) (hi := 255) (by simpa using a) (by simpa using b)
    (by norm_num) (by norm_num)

theorem linMid_bounds {q m X : ℚ} (h1 : m ≤ q) (h2 : q ≤ X) :
    0 ≤ linMid q m X ∧ linMid q m X ≤ 255 :=
  let ⟨a, b⟩ := fl64_ramp_mem_unit h1 h2
  fl64_unit_mul_255 a b

theorem truncRat_linMid_range {q m X : ℚ} (h1 : m ≤ q) (h2 : q ≤ X) :
    0 ≤ truncRat (linMid q m X) ∧ truncRat (linMid q m X) ≤ 255 :=
  let ⟨a, b⟩ := linMid_bounds h1 h2
  ⟨truncRat_nonneg a, truncRat_le_of_le_intCast (by simpa using b)⟩

theorem linMid_mono {q q' m X : ℚ} (hmX : m ≤ X) (h : q ≤ q') :
    linMid q m X ≤ linMid q' m X := by
  unfold linMid
  exact fl64_mono (by linarith [fl64_ramp_mono hmX h])

theorem linMinMax_unfold (indef : Int) (avg : F64) {mn mx : Int} (hmn : |mn| ≤ 2 ^ 63)
    (hmx : |mx| ≤ 2 ^ 63) :
    linMinMax indef avg mn mx =
      if ge avg (fin (kTemp mx)) then 255
      else if le avg (fin (kTemp mn)) then 0
      else toInt indef ((avg - fin (kTemp mn)) / (fin (kTemp mx) - fin (kTemp mn)) * fin 255) := by
  unfold linMinMax
  simp only [ofInt_mul_1000 hmn, ofInt_mul_1000 hmx, ofInt_255]

theorem pow2_73_le : pow2 73 ≤ pow2 1023 := pow2_mono (by norm_num)

theorem linMinMax_fin (indef : Int) (q : ℚ) {mn mx : Int} (hmn : |mn| ≤ 2 ^ 63)
    (hmx : |mx| ≤ 2 ^ 63) :
    linMinMax indef (fin q) mn mx =
      if q < kTemp mx then
        if q ≤ kTemp mn then 0 else truncRat (linMid q (kTemp mn) (kTemp mx))
      else 255 := by
  rw [linMinMax_unfold indef _ hmn hmx]
  by_cases h2 : q < kTemp mx
  · rw [if_neg (by simpa using h2), if_pos h2]
    by_cases h1 : q ≤ kTemp mn
    · rw [if_pos (by simpa using h1), if_pos h1]
    · have h1' := (not_le.mp h1).le
      obtain ⟨r0, r1⟩ := fl64_ramp_mem_unit h1' h2.le
      rw [if_neg (by simpa using h1), if_neg h1,
        ramp_fin (x := kTemp mn) (x' := kTemp mx) 73 (rep64_fl64 _) (rep64_fl64 _) h1' h2
          (kTemp_abs_le hmn) (kTemp_abs_le hmx)]
      exact (toInt_unit_mul_255 indef r0 r1).1
  · rw [if_pos (by simpa using h2), if_neg h2]

theorem linMinMax_mid (indef : Int) {q : ℚ} {mn mx : Int} (hmn : |mn| ≤ 2 ^ 63)
    (hmx : |mx| ≤ 2 ^ 63) (h1 : kTemp mn < q) (h2 : q < kTemp mx) :
    linMinMax indef (fin q) mn mx = truncRat (linMid q (kTemp mn) (kTemp mx)) := by
  rw [linMinMax_fin indef q hmn hmx, if_pos h2, if_neg h1.not_ge]

theorem linMinMax_inf (indef : Int) (s : Bool) {mn mx : Int} (hmn : |mn| ≤ 2 ^ 63)
    (hmx : |mx| ≤ 2 ^ 63) : linMinMax indef (inf s) mn mx = if s then 0 else 255 := by
  rw [linMinMax_unfold indef _ hmn hmx]
  cases s <;> simp [ge, le]

theorem linMinMax_range (indef : Int) {avg : F64} (havg : avg ≠ nan) {mn mx : Int}
    (hmn : |mn| ≤ 2 ^ 63) (hmx : |mx| ≤ 2 ^ 63) :
    0 ≤ linMinMax indef avg mn mx ∧ linMinMax indef avg mn mx ≤ 255 := by
  cases avg with
  | nan => exact absurd rfl havg
  | inf s => rw [linMinMax_inf indef s hmn hmx]; cases s <;> simp
  | fin q =>
    rw [linMinMax_fin indef q hmn hmx]
    split_ifs with h2 h1
    · norm_num
    · exact truncRat_linMid_range (not_le.mp h1).le h2.le
    · norm_num

theorem linMinMax_mono (indef : Int) {a b : ℚ} (hab : a ≤ b) {mn mx : Int}
    (hmn : |mn| ≤ 2 ^ 63) (hmx : |mx| ≤ 2 ^ 63) :
    linMinMax indef (fin a) mn mx ≤ linMinMax indef (fin b) mn mx := by
  have hr := fun {t : ℚ} (h : ¬ t ≤ kTemp mn) (h' : t < kTemp mx) =>
    truncRat_linMid_range (not_le.mp h).le h'.le
  rw [linMinMax_fin indef a hmn hmx, linMinMax_fin indef b hmn hmx]
  refine ite_le_ite_of_le (hp := hab.trans_lt) (hu := fun hb => ?_) (huv := fun ha _ => ?_)
    (hv := fun _ => le_rfl)
  · exact ite_le_ite_of_le (hp := hab.trans) (hu := fun _ => le_rfl)
      (huv := fun _ hb' => (hr hb' hb).1) (hv := fun ha' =>
        truncRat_mono (linMid_mono ((not_le.mp ha').le.trans (hab.trans_lt hb).le) hab))
  · split_ifs with h
    · norm_num
    · exact (hr h ha).2

theorem linMinMax_mono_ext (indef : Int) {x y : F64} (h : le x y = true) {mn mx : Int}
    (hmn : |mn| ≤ 2 ^ 63) (hmx : |mx| ≤ 2 ^ 63) :
    linMinMax indef x mn mx ≤ linMinMax indef y mn mx := by
  have hneg : linMinMax indef (inf true) mn mx = 0 := linMinMax_inf indef true hmn hmx
  have hpos : linMinMax indef (inf false) mn mx = 255 := linMinMax_inf indef false hmn hmx
  have hr := fun q => linMinMax_range indef (avg := fin q) (by simp) hmn hmx
  refine mono_of_fin (fun t => linMinMax indef t mn mx) ?_ ?_ ?_ ?_ h
  · intro q; rw [hneg]; exact (hr q).1
  · intro q; rw [hpos]; exact (hr q).2
  · rw [hneg, hpos]; norm_num
  · exact fun a b hab => linMinMax_mono indef hab hmn hmx

/-- for realistic temperatures the width `(max - min)·1000` is an integer below `2^53`, hence a
    float64 value. -/
theorem linWidth_exact {mn mx : Int} (hmn : |mn| ≤ 2 ^ 42) (hmx : |mx| ≤ 2 ^ 42) (hlt : mn < mx) :
    Rep64 ((mx : ℚ) * 1000 - mn * 1000) ∧ 1 ≤ (mx : ℚ) * 1000 - mn * 1000 := by
  have hmn' := abs_le.mp hmn
  have hmx' := abs_le.mp hmx
  rw [show (mx : ℚ) * 1000 - mn * 1000 = (((mx - mn) * 1000 : Int) : ℚ) by push_cast; ring]
  exact ⟨rep64_intCast _ (abs_le.mpr ⟨by omega, by omega⟩),
    by exact_mod_cast (by omega : (1 : Int) ≤ (mx - mn) * 1000)⟩

theorem linMid_close {q m X : ℚ} (hW : Rep64 (X - m)) (hW1 : 1 ≤ X - m) (h1 : m ≤ q) (h2 : q ≤ X) :
    |linMid q m X - 255 * ((q - m) / (X - m))| ≤ 1 / 2 ^ 42 := by
  have := fl64_ramp_close (u := q - m) (c := 255) (by linarith) (by linarith) hW1 hW (by norm_num)
  unfold linMid
  rw [fl64_of_rep hW]
  refine this.trans ?_
  -- `765·2^-53 + 511·2^-1075 ≤ 1276·2^-53 ≤ 2^11·2^-53 = 2^-42`
  have hη : pow2 (-1075) ≤ pow2 (-53) := pow2_mono (by norm_num)
  linarith [pow2_m53]

end Fan2go
