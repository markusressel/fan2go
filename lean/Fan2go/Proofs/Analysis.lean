/-
  Proofs about `Model/Analysis.lean` (what the start-up analysis computes). The sweep yields `sweptMap resp`, a
  well-formed map whose outputs the device reads back; its distinct targets are the first keys of the runs of
  `resp` (for a monotone idempotent response that never exceeds the written value: its fixed points); the
  measurement loop computes `measSpec`; the two constants built with `InterpolateLinearly` are the identity on
  0..255.
-/
import Fan2go.Model.Analysis
import Fan2go.Proofs.Util
import Fan2go.Proofs.FanLimits
import Fan2go.Spec.Controller
import Fan2go.Proofs.F64Ops
import Fan2go.Proofs.Interp
namespace Fan2go.Analysis
open Fan2go Fan2go.Startup F64

/-- the map a sweep of a device with response `resp` produces: `{i ↦ resp i | i ∈ 0..255}` -/
def sweptMap (resp : Int → Int) : List (Int × Int) :=
  (List.range 256).map fun (i : Nat) => ((i : Int), resp (i : Int))

theorem sweepFrom_spec (ph : Phys) (n : Nat) (r : Regs) (acc : List (Int × Int)) :
    (sweepFrom ph n r acc).2 = ((List.range (n + 1)).map fun (i : Nat) => ((i : Int), ph.resp (i : Int))) ++ acc ∧
    (sweepFrom ph n r acc).1.pwm = ph.resp 0 ∧ (sweepFrom ph n r acc).1.rpm = ph.rpmOf (ph.resp 0) ∧
    (sweepFrom ph n r acc).1.mode = r.mode := by
  induction n generalizing r acc with
  | zero => simp [sweepFrom, Phys.write]
  | succ n ih =>
    rw [sweepFrom]
    obtain ⟨h1, h2, h3, h4⟩ := ih (ph.write r ((n + 1 : Nat) : Int)) ((((n + 1 : Nat) : Int), (ph.write r ((n + 1 : Nat) : Int)).pwm) :: acc)
    refine ⟨?_, h2, h3, ?_⟩
    · rw [h1, List.range_succ (n := n + 1), List.map_append]
      simp [Phys.write]
    · rw [h4]; rfl

theorem sweep_map (ph : Phys) (r : Regs) : (sweep ph r).2 = sweptMap ph.resp := by
  have := (sweepFrom_spec ph 255 r []).1
  simpa [sweep, sweptMap] using this

theorem sweep_regs (ph : Phys) (r : Regs) :
    (sweep ph r).1.pwm = ph.resp 0 ∧ (sweep ph r).1.rpm = ph.rpmOf (ph.resp 0) ∧ (sweep ph r).1.mode = r.mode := by
  unfold sweep
  exact (sweepFrom_spec ph 255 r []).2

theorem sweptMap_sorted (resp : Int → Int) : (sweptMap resp).Pairwise (fun a b => a.1 < b.1) := by
  unfold sweptMap
  rw [List.pairwise_map]
  exact (List.pairwise_lt_range (n := 256)).imp (by intro a b h; simp only; exact_mod_cast h)

theorem mem_sweptMap {resp : Int → Int} {p : Int × Int} :
    p ∈ sweptMap resp ↔ 0 ≤ p.1 ∧ p.1 ≤ 255 ∧ p.2 = resp p.1 := by
  unfold sweptMap
  simp only [List.mem_map, List.mem_range]
  constructor
  · rintro ⟨i, hi, rfl⟩
    exact ⟨by positivity, by simp only; omega, rfl⟩
  · rintro ⟨h0, h1, h2⟩
    refine ⟨p.1.toNat, by omega, ?_⟩
    have : ((p.1.toNat : Nat) : Int) = p.1 := Int.toNat_of_nonneg h0
    rw [this, ← h2]

theorem mapGet_sweptMap (resp : Int → Int) {k : Int} (h0 : 0 ≤ k) (h1 : k ≤ 255) :
    mapGet (sweptMap resp) k = resp k :=
  mapGet_of_mem (sweptMap_sorted resp) (mem_sweptMap.mpr ⟨h0, h1, rfl⟩)

theorem sweptMap_ne_nil (resp : Int → Int) : sweptMap resp ≠ [] := by
  unfold sweptMap; simp

/-- `MapOk` is the quantifier of C01 / C12 -/
theorem sweptMap_mapOk (resp : Int → Int) (h : ∀ v, 0 ≤ v → v ≤ 255 → 0 ≤ resp v ∧ resp v ≤ 255) :
    MapOk (sweptMap resp) := by
  refine ⟨sweptMap_ne_nil resp, sweptMap_sorted resp, ?_⟩
  intro p hp
  obtain ⟨h0, h1, h2⟩ := mem_sweptMap.mp hp
  rw [h2]; exact h p.1 h0 h1

/-- what `ReadsBack.idem` of C05 asks of the PWM map -/
theorem sweptMap_idem (resp : Int → Int) (h : ∀ v, 0 ≤ v → v ≤ 255 → resp (resp v) = resp v) :
    ∀ p ∈ sweptMap resp, resp p.2 = p.2 := by
  intro p hp
  obtain ⟨h0, h1, h2⟩ := mem_sweptMap.mp hp
  rw [h2]; exact h p.1 h0 h1

theorem quantResp_idem (q v : Int) : quantResp q (quantResp q v) = quantResp q v := by
  unfold quantResp
  split
  · next hq => rw [Int.mul_tdiv_cancel _ (by omega)]
  · rfl

theorem quantResp_eq_ediv {q v : Int} (hq : 1 < q) (hv : 0 ≤ v) : quantResp q v = v / q * q := by
  unfold quantResp
  rw [if_pos hq, Int.tdiv_eq_ediv_of_nonneg hv]

theorem quantResp_range (q : Int) {v : Int} (hv : 0 ≤ v) : 0 ≤ quantResp q v ∧ quantResp q v ≤ v := by
  by_cases hq : 1 < q
  · rw [quantResp_eq_ediv hq hv]
    have h1 : 0 ≤ v / q := Int.ediv_nonneg hv (by omega)
    have h2 : v / q * q ≤ v := Int.ediv_mul_le v (by omega)
    exact ⟨Int.mul_nonneg h1 (by omega), h2⟩
  · unfold quantResp; rw [if_neg (by omega)]; exact ⟨hv, le_refl _⟩

theorem quantResp_mono (q : Int) {a b : Int} (ha : 0 ≤ a) (hab : a ≤ b) : quantResp q a ≤ quantResp q b := by
  by_cases hq : 1 < q
  · rw [quantResp_eq_ediv hq ha, quantResp_eq_ediv hq (by omega)]
    exact Int.mul_le_mul_of_nonneg_right (Int.ediv_le_ediv (by omega) hab) (by omega)
  · simpa [quantResp, hq] using hab

theorem quantResp_fixed_iff (q : Int) {v : Int} (hv : 0 ≤ v) : quantResp q v = v ↔ q ≤ 1 ∨ q ∣ v := by
  by_cases hq : 1 < q
  · rw [quantResp_eq_ediv hq hv]
    constructor
    · intro h; exact .inr ⟨v / q, by rw [mul_comm]; exact h.symm⟩
    · rintro (h | h)
      · omega
      · exact Int.ediv_mul_cancel h
  · rw [quantResp, if_neg hq]
    exact ⟨fun _ => .inl (by omega), fun _ => rfl⟩

/-- the loop over a value sequence `g 1, g 2, …`, entered with `lastValue = g j` -/
theorem extractKeysAux_range (key g : Nat → Int) (n : Nat) : ∀ j,
    extractKeysAux (g j) ((List.range' j n).map fun i => (key i, g (i + 1))) =
      ((List.range' j n).filter fun i => decide (g i = -1 ∨ g i ≠ g (i + 1))).map key := by
  induction n with
  | zero => intro j; simp [extractKeysAux]
  | succ n ih =>
    intro j
    rw [List.range'_succ, List.map_cons, extractKeysAux_cons, ih (j + 1), List.filter_cons]
    by_cases hc : g j = -1 ∨ g j ≠ g (j + 1) <;> simp [hc]

theorem extractKeys_sweptMap (resp : Int → Int) (h : ∀ v, 0 ≤ v → v ≤ 255 → resp v ≠ -1) :
    extractKeys (sweptMap resp) =
      ((List.range 256).filter fun (i : Nat) => decide (i = 0 ∨ resp ((i : Int) - 1) ≠ resp (i : Int))).map (fun (i : Nat) => (i : Int)) := by
  -- the responses with the sentinel `-1` (the initial `lastValue`) in front
  let g : Nat → Int := fun | 0 => -1 | i + 1 => resp i
  unfold extractKeys sweptMap
  rw [List.range_eq_range']
  refine (extractKeysAux_range (fun i => (i : Int)) g 256 0).trans ?_
  congr 1
  apply List.filter_congr
  intro i hi
  cases i with
  | zero => simp [g]
  | succ i => simp [g, h i (by positivity) (by have := (List.mem_range'_1.mp hi).2; omega)]

theorem extractKeys_sweptMap_range (resp : Int → Int) :
    ∀ k ∈ extractKeys (sweptMap resp), 0 ≤ k ∧ k ≤ 255 := by
  intro k hk
  obtain ⟨v, hv⟩ := extractKeys_sub _ k hk
  have := mem_sweptMap.mp hv
  exact ⟨this.1, this.2.1⟩

theorem firstOfRun_iff_fixed {resp : Int → Int} (hmono : ∀ a b, 0 ≤ a → a ≤ b → resp a ≤ resp b)
    (hidem : ∀ v, resp (resp v) = resp v) (hrange : ∀ v, 0 ≤ v → 0 ≤ resp v ∧ resp v ≤ v) {i : Int} (hi : 1 ≤ i) :
    resp (i - 1) ≠ resp i ↔ resp i = i := by
  have hr := hrange i (by omega)
  constructor
  · intro hne
    by_contra hlt
    -- otherwise `resp i ≤ i - 1` is itself read back, so `resp i = resp (resp i) ≤ resp (i - 1) ≤ resp i`
    have h2 := hmono (resp i) (i - 1) hr.1 (by omega)
    rw [hidem] at h2
    have h3 := hmono (i - 1) i (by omega) (by omega)
    omega
  · intro h
    have := (hrange (i - 1) (by omega)).2
    omega

theorem extractKeys_sweptMap_quant (q : Int) :
    extractKeys (sweptMap (quantResp q)) =
      ((List.range 256).filter fun (i : Nat) => decide (q ≤ 1) || decide (q ∣ (i : Int))).map (fun (i : Nat) => (i : Int)) := by
  rw [extractKeys_sweptMap _ (by
    intro v h0 h1; have := (quantResp_range q h0).1; omega)]
  congr 1
  apply List.filter_congr
  intro i _
  rcases Nat.eq_zero_or_pos i with rfl | hi
  · simp
  · have := firstOfRun_iff_fixed (fun a b => quantResp_mono q) (quantResp_idem q) (fun v => quantResp_range q)
      (show (1 : Int) ≤ i by omega)
    simp [this, quantResp_fixed_iff q (by omega : (0 : Int) ≤ i), show i ≠ 0 by omega]

theorem mem_targets_quant (q k : Int) :
    k ∈ extractKeys (sweptMap (quantResp q)) ↔ 0 ≤ k ∧ k ≤ 255 ∧ (q ≤ 1 ∨ q ∣ k) := by
  rw [extractKeys_sweptMap_quant]
  simp only [List.mem_map, List.mem_filter, List.mem_range, Bool.or_eq_true, decide_eq_true_eq]
  constructor
  · rintro ⟨i, ⟨hi, hc⟩, rfl⟩
    exact ⟨by positivity, by omega, hc⟩
  · rintro ⟨h0, h1, hc⟩
    refine ⟨k.toNat, ⟨by omega, ?_⟩, Int.toNat_of_nonneg h0⟩
    rw [Int.toNat_of_nonneg h0]; exact hc

theorem quantResp_target {q k : Int} (hk : k ∈ extractKeys (sweptMap (quantResp q))) : quantResp q k = k :=
  have ⟨h0, _, hc⟩ := (mem_targets_quant q k).mp hk
  (quantResp_fixed_iff q h0).mpr hc

/-- one pass of the measurement loop's body on target `k`: the register state afterwards and whether the point
    is recorded. Without a readable PWM value it is recorded iff the map is the identity at `k`: `getPwm` answers
    with the last REQUEST. -/
def measStep (ph : Phys) (pwmRead : Bool) (m : List (Int × Int)) (k : Int) (r : Regs) : Regs × Bool :=
  if pwmRead then
    if mapGet m k = r.pwm then (r, true)
    else (ph.write r (mapGet m k), decide (ph.resp (mapGet m k) = mapGet m k))
  else (ph.write r (mapGet m k), decide (k = mapGet m k))

/-- the measured curve: for each target in order, the RPM register after the step, if the point is recorded -/
def measSpec (ph : Phys) (pwmRead : Bool) (m : List (Int × Int)) : List Int → Regs → Regs × List (Int × F64)
  | [], r => (r, [])
  | k :: ks, r =>
    let s := measStep ph pwmRead m k r
    let t := measSpec ph pwmRead m ks s.1
    (t.1, if s.2 then (k, ofInt s.1.rpm) :: t.2 else t.2)

theorem putF_append (acc : List (Int × F64)) (k : Int) (v : F64) (h : ∀ p ∈ acc, p.1 < k) :
    putF acc k v = acc ++ [(k, v)] := by
  induction acc with
  | nil => rfl
  | cons a rest ih =>
    obtain ⟨k', v'⟩ := a
    have h1 : k' < k := h (k', v') (List.mem_cons_self ..)
    rw [putF, if_neg (by omega), if_neg (by omega), ih (fun p hp => h p (List.mem_cons_of_mem _ hp))]
    rfl

@[simp] theorem updateDistinct_pwmMap (c : CtlSt) : (updateDistinct c).pwmMap = c.pwmMap := rfl

theorem setPwm_ctl {ph : Phys} {cfg : FanCfg} {c c' : CtlSt} {r r' : Regs} {t : Int}
    (h : setPwm ph cfg c r t = .ok (c', r')) : c' = { c with lastSet := some t } := by
  unfold setPwm at h
  split at h
  · simp only at h
    split at h <;> simp at h <;> exact h.1.symm
  all_goals simp at h

theorem measureLoop_ctl (ph : Phys) (cfg : FanCfg) (fan : FanSt) (ks : List Int) :
    ∀ (c : CtlSt) (r : Regs) (acc : List (Int × F64)),
      ∃ l, (measureLoop ph cfg fan ks c r acc).ctl = { c with lastSet := l } := by
  induction ks with
  | nil => intro c r acc; exact ⟨_, rfl⟩
  | cons k ks ih =>
    intro c r acc
    rw [measureLoop]
    cases h : setPwm ph cfg c r k with
    | ok p =>
      obtain ⟨c', r'⟩ := p
      obtain rfl := setPwm_ctl h
      simp only
      split <;> exact ih _ _ _
    | err e => exact ⟨_, rfl⟩
    | panic s => exact ⟨_, rfl⟩

theorem measureLoop_cons (ph : Phys) (cfg : FanCfg) (fan : FanSt) {src : MapSrc} {m : List (Int × Int)} {c : CtlSt}
    (hm : c.pwmMap = some (src, m)) (hs : c.distinct.Pairwise (· < ·)) {k : Int} (hk : k ∈ c.distinct)
    (ks : List Int) (r : Regs) (acc : List (Int × F64)) :
    measureLoop ph cfg fan (k :: ks) c r acc =
      measureLoop ph cfg fan ks { c with lastSet := some k } (measStep ph cfg.pwmRead m k r).1
        (if (measStep ph cfg.pwmRead m k r).2 then putF acc k (ofInt (measStep ph cfg.pwmRead m k r).1.rpm)
         else acc) := by
  have hfc : findClosest k c.distinct.toArray = .ok k := findClosest_of_mem hs hk
  have hmap : ∀ l, ({ c with lastSet := l } : CtlSt).mapping k = mapGet m k := fun l => by
    simp [CtlSt.mapping, hm]
  rw [measureLoop, setPwm, hfc]
  simp only [hmap, getPwm, measStep]
  by_cases hpr : cfg.pwmRead = true
  · by_cases h : mapGet m k = r.pwm
    · simp [hpr, h, hmap]
    · by_cases h' : ph.resp (mapGet m k) = mapGet m k <;> simp [hpr, h, h', hmap, Phys.write]
  · by_cases h : k = mapGet m k
    · simp [hpr, Phys.write, hmap, if_pos h, decide_eq_true h]
    · simp [hpr, Phys.write, hmap, if_neg h, decide_eq_false h]

theorem measureLoop_spec (ph : Phys) (cfg : FanCfg) (fan : FanSt) (src : MapSrc) (m : List (Int × Int)) :
    ∀ (ks : List Int) (c : CtlSt) (r : Regs) (acc : List (Int × F64)),
      c.pwmMap = some (src, m) → c.distinct.Pairwise (· < ·) → (∀ k ∈ ks, k ∈ c.distinct) →
      let o := measureLoop ph cfg fan ks c r acc
      o.res = .ok () ∧ o.data = (measSpec ph cfg.pwmRead m ks r).2.foldl (fun a p => putF a p.1 p.2) acc ∧
      o.regs = (measSpec ph cfg.pwmRead m ks r).1 := by
  intro ks
  induction ks with
  | nil => intro c r acc _ _ _; exact ⟨rfl, rfl, rfl⟩
  | cons k ks ih =>
    intro c r acc hm hD hmem
    rw [measureLoop_cons ph cfg fan hm hD (hmem k (List.mem_cons_self ..)), measSpec]
    obtain ⟨h1, h2, h3⟩ := ih { c with lastSet := some k } (measStep ph cfg.pwmRead m k r).1
      (if (measStep ph cfg.pwmRead m k r).2 then putF acc k (ofInt (measStep ph cfg.pwmRead m k r).1.rpm) else acc)
      hm hD (fun k' h => hmem k' (List.mem_cons_of_mem _ h))
    refine ⟨h1, ?_, h3⟩
    rw [h2]
    cases (measStep ph cfg.pwmRead m k r).2 <;> rfl

theorem foldl_putF (l : List (Int × F64)) : ∀ acc : List (Int × F64),
    (acc ++ l).Pairwise (fun p q => p.1 < q.1) → l.foldl (fun a p => putF a p.1 p.2) acc = acc ++ l := by
  induction l with
  | nil => intro acc _; simp
  | cons p l ih =>
    intro acc h
    rw [List.foldl_cons, putF_append acc p.1 p.2 fun q hq =>
      (List.pairwise_append.mp h).2.2 q hq p (List.mem_cons_self ..), ih _ (by simpa using h), List.append_assoc]
    rfl

theorem measSpec_sublist (ph : Phys) (pr : Bool) (m : List (Int × Int)) (ks : List Int) :
    ∀ r, ((measSpec ph pr m ks r).2.map Prod.fst).Sublist ks := by
  induction ks with
  | nil => intro r; simp [measSpec]
  | cons k ks ih =>
    intro r
    simp only [measSpec]
    split
    · simpa using (ih _).cons_cons k
    · exact (ih _).cons k

/-- the measurement as `RunInitializationSequence` calls it: over the distinct targets of the controller's map -/
theorem measureLoop_targets (ph : Phys) (cfg : FanCfg) (fan : FanSt) (src : MapSrc) (m : List (Int × Int))
    (hm : m.Pairwise (fun a b => a.1 < b.1)) (c : CtlSt) (hc : c.pwmMap = some (src, m))
    (hd : c.distinct = extractKeys m) (r : Regs) :
    let o := measureLoop ph cfg fan c.distinct c r []
    o.res = .ok () ∧ o.data = (measSpec ph cfg.pwmRead m (extractKeys m) r).2 ∧
    o.regs = (measSpec ph cfg.pwmRead m (extractKeys m) r).1 := by
  have hs := extractKeys_sorted m hm
  obtain ⟨h1, h2, h3⟩ := measureLoop_spec ph cfg fan src m c.distinct c r [] hc (hd ▸ hs) (fun _ hk => hk)
  rw [hd] at h1 h2 h3 ⊢
  -- the recorded keys are among the targets, hence ascending
  exact ⟨h1, h2.trans (foldl_putF _ [] (List.pairwise_map.mp (hs.sublist (measSpec_sublist ph _ m _ r)))), h3⟩

theorem measSpec_complete (ph : Phys) (m : List (Int × Int)) (ks : List Int) :
    ∀ r, ∀ k ∈ ks, ph.resp (mapGet m k) = mapGet m k → k ∈ (measSpec ph true m ks r).2.map Prod.fst := by
  induction ks with
  | nil => intro r k hk; simp at hk
  | cons k0 ks ih =>
    intro r k hk hfix
    simp only [measSpec]
    rcases List.mem_cons.mp hk with h | h
    · subst h
      have : (measStep ph true m k r).2 = true := by
        simp only [measStep, if_true]; split <;> simp [hfix]
      simp [this]
    · have := ih (measStep ph true m k0 r).1 k h hfix
      split
      · simp only [List.map_cons, List.mem_cons]; right; exact this
      · exact this

/-- a register state the device can be in after a write -/
def Phys.Steady (ph : Phys) (r : Regs) : Prop := ph.resp r.pwm = r.pwm ∧ r.rpm = ph.rpmOf r.pwm

theorem Phys.steady_write (ph : Phys) (hidem : ∀ v, ph.resp (ph.resp v) = ph.resp v) (r : Regs) (v : Int) :
    ph.Steady (ph.write r v) := ⟨hidem v, rfl⟩

theorem Phys.Steady.trySetManual {ph : Phys} {r : Regs} (h : ph.Steady r) (cfg : FanCfg) :
    ph.Steady (trySetManual ph cfg r) := by
  unfold Analysis.trySetManual
  split
  · exact ⟨h.1, rfl⟩
  · exact h

theorem measStep_steady (ph : Phys) (m : List (Int × Int)) (hidem : ∀ v, ph.resp (ph.resp v) = ph.resp v) (k : Int)
    {r : Regs} (hr : ph.Steady r) :
    ph.Steady (measStep ph true m k r).1 ∧
    (measStep ph true m k r).2 = decide (ph.resp (mapGet m k) = mapGet m k) ∧
    ((measStep ph true m k r).2 = true → (measStep ph true m k r).1.rpm = ph.rpmOf (mapGet m k)) := by
  simp only [measStep, if_true]
  by_cases he : mapGet m k = r.pwm
  · rw [if_pos he, he]
    exact ⟨hr, (decide_eq_true hr.1).symm, fun _ => hr.2⟩
  · rw [if_neg he]
    exact ⟨ph.steady_write hidem r _, rfl, fun h => by rw [Phys.write, of_decide_eq_true h]⟩

theorem measSpec_idem (ph : Phys) (m : List (Int × Int)) (hidem : ∀ v, ph.resp (ph.resp v) = ph.resp v)
    (ks : List Int) :
    ∀ r : Regs, ph.Steady r →
      (measSpec ph true m ks r).2 =
        (ks.filter fun k => decide (ph.resp (mapGet m k) = mapGet m k)).map
          (fun k => (k, ofInt (ph.rpmOf (mapGet m k)))) ∧
      ph.Steady (measSpec ph true m ks r).1 := by
  induction ks with
  | nil => intro r hr; exact ⟨rfl, hr⟩
  | cons k ks ih =>
    intro r hr
    obtain ⟨s1, s2, s3⟩ := measStep_steady ph m hidem k hr
    obtain ⟨i1, i2⟩ := ih _ s1
    refine ⟨?_, i2⟩
    rw [measSpec, List.filter_cons, ← s2, i1]
    cases hb : (measStep ph true m k r).2
    · rfl
    · simp only [if_true, List.map_cons, s3 hb]

theorem measSpec_all (ph : Phys) (m : List (Int × Int)) (hidem : ∀ v, ph.resp (ph.resp v) = ph.resp v)
    (ks : List Int) (r : Regs) (hr : ph.Steady r) (hfix : ∀ k ∈ ks, ph.resp (mapGet m k) = mapGet m k) :
    (measSpec ph true m ks r).2 = ks.map (fun k => (k, ofInt (ph.rpmOf (mapGet m k)))) := by
  rw [(measSpec_idem ph m hidem ks r hr).1]
  congr 1
  rw [List.filter_eq_self]
  intro k hk; simpa using hfix k hk

/-- the controller `Run` starts with, nothing but the original register values: the `c0` of `startD`
    (the `rfl` that closes `startD_*`) -/
def ctl0 (cfg : FanCfg) (r : Regs) : CtlSt :=
  { origPwm := getPwm cfg cfg.newFan {} r, origMode := if cfg.hasMode then r.mode else 0 }

@[simp] theorem fanKind_eq_hwmon_iff {k : Kind} : fanKind k = .hwmon ↔ k = .hwmon := by
  cases k <;> simp [fanKind]

theorem newFan_kind (cfg : FanCfg) : cfg.newFan.kind = fanKind cfg.kind := rfl

theorem newFan_kind_hwmon (cfg : FanCfg) (hk : cfg.kind = .hwmon) : cfg.newFan.kind = .hwmon :=
  fanKind_eq_hwmon_iff.2 hk

theorem newFan_kind_ne (cfg : FanCfg) (hk : cfg.kind ≠ .hwmon) : cfg.newFan.kind ≠ .hwmon :=
  mt fanKind_eq_hwmon_iff.1 hk

theorem curveOf_hwmon {cfg : FanCfg} (hk : cfg.kind = .hwmon) (fan : FanSt) :
    curveOf cfg fan = fan.curveData := by
  rw [curveOf, hk]

theorem curveOf_other {cfg : FanCfg} (hk : cfg.kind ≠ .hwmon) (fan : FanSt) :
    curveOf cfg fan = some fileCurve := by
  unfold curveOf
  cases h : cfg.kind with
  | hwmon => exact absurd h hk
  | file | cmd => rfl

theorem startD_stored (indef : Int) (ph : Phys) (cfg : FanCfg) {st : DStore} (r : Regs) {d : List (Int × F64)}
    (h : st.rpm = some d) :
    startD indef ph cfg st r = runTailD indef ph cfg cfg.newFan (ctl0 cfg r) st r [.loadRpmOk] := by
  unfold startD; simp only [h]; rfl

theorem startD_hwmon (indef : Int) (ph : Phys) (cfg : FanCfg) {st : DStore} (r : Regs) (h : st.rpm = none)
    (hk : cfg.kind = .hwmon) :
    startD indef ph cfg st r =
      let o := runInitD indef ph cfg cfg.newFan (ctl0 cfg r) st r
      if o.ok then runTailD indef ph cfg o.fan o.ctl o.store o.regs (.loadRpmFail :: o.acts)
      else { o with acts := .loadRpmFail :: o.acts ++ [.restore], regs := restore ph cfg o.ctl o.regs } := by
  unfold startD; simp only [h, hk]; rfl

theorem startD_other (indef : Int) (ph : Phys) (cfg : FanCfg) {st : DStore} (r : Regs) (h : st.rpm = none)
    (hk : cfg.kind ≠ .hwmon) :
    startD indef ph cfg st r =
      runTailD indef ph cfg cfg.newFan (ctl0 cfg r) { st with rpm := curveOf cfg cfg.newFan } r
        [.loadRpmFail, .saveRpm] := by
  unfold startD; simp only [h]
  cases hkind : cfg.kind with
  | hwmon => exact absurd hkind hk
  | file | cmd => rfl

theorem runTailD_none (indef : Int) (ph : Phys) (cfg : FanCfg) (fan : FanSt) (c : CtlSt) {st : DStore} (r : Regs)
    (acts : List Action) (h : st.rpm = none) :
    runTailD indef ph cfg fan c st r acts =
      { acts := acts ++ [.loadRpmFail, .restore], store := st, ctl := c, ok := false, regs := restore ph cfg c r,
        fan := fan } := by
  unfold runTailD; rw [h]

theorem runTailD_attached (indef : Int) (ph : Phys) (cfg : FanCfg) {fan fan' : FanSt} (c : CtlSt) {st : DStore}
    (r : Regs) (acts : List Action) {d : List (Int × F64)} (h : st.rpm = some d)
    (ha : fan.attach indef (some d) = (fan', .ok ())) :
    runTailD indef ph cfg fan c st r acts =
      let L := computePwmMapLockedD indef ph cfg fan' c st r
      { acts := acts ++ [.loadRpmOk, .attach] ++ L.1 ++ [.regulate], store := L.2.2.1, ctl := updateDistinct L.2.1,
        ok := true, regs := restore ph cfg (updateDistinct L.2.1) (trySetManual ph cfg L.2.2.2.mark), fan := fan' } := by
  unfold runTailD; rw [h]; simp only [ha]

theorem runInitD_cases (indef : Int) (ph : Phys) (cfg : FanCfg) (fan : FanSt) (c : CtlSt) (st : DStore) (r : Regs)
    {a1 : List Action} {c1 : CtlSt} {st1 : DStore} {r1 : Regs}
    (hL : computePwmMapLockedD indef ph cfg fan c st r = (a1, c1, st1, r1)) {mo : MeasOut}
    (hmo : measureLoop ph cfg fan (updateDistinct c1).distinct (updateDistinct c1) (trySetManual ph cfg r1) [] = mo) :
    let pre := Action.initSequence :: a1 ++ [.saveMap]
    let st2 : DStore := { st1 with map := c1.pwmMap }
    let o := runInitD indef ph cfg fan c st r
    (cfg.hasRpm = false ∧
      o = { acts := pre ++ [.skipMeasure], store := st2, ctl := updateDistinct c1, ok := true, regs := r1, fan := fan }) ∨
    (cfg.hasRpm = true ∧ mo.res = .ok () ∧ ∃ fan', fan.attach indef (some mo.data) = (fan', .ok ()) ∧
      o = { acts := pre ++ [.manual, .measure, .attach, .saveRpm], store := { st2 with rpm := curveOf cfg fan' },
            ctl := mo.ctl, ok := true, regs := mo.regs, fan := fan' }) ∨
    (cfg.hasRpm = true ∧ (mo.res = .ok () → (fan.attach indef (some mo.data)).2 ≠ .ok ()) ∧
      o.acts = pre ++ [.manual, .measure, .measureFail] ∧ o.store = st2 ∧ o.ctl = mo.ctl ∧ o.ok = false ∧
      (o.fan = fan ∨ o.fan = (fan.attach indef (some mo.data)).1)) := by
  unfold runInitD
  rw [hL]
  dsimp only
  rw [hmo]
  cases hr : cfg.hasRpm with
  | false => exact .inl ⟨rfl, rfl⟩
  | true =>
    simp only [Bool.not_true, Bool.false_eq_true, if_false]
    split
    · next hres =>
      split
      · next fan' heq => exact .inr (.inl ⟨trivial, hres, fan', heq, rfl⟩)
      · next fan' res hne heq =>
        exact .inr (.inr ⟨trivial, fun _ h => hne (by rw [heq] at h; exact h), rfl, rfl, rfl, rfl, .inr (by rw [heq])⟩)
    · next hres => exact .inr (.inr ⟨trivial, fun h => (nomatch hres.symm.trans h), rfl, rfl, rfl, rfl, .inl rfl⟩)
    · next hres => exact .inr (.inr ⟨trivial, fun h => (nomatch hres.symm.trans h), rfl, rfl, rfl, rfl, .inl rfl⟩)

theorem computeAuto_default (indef : Int) (ph : Phys) {cfg : FanCfg} (fan : FanSt) (c : CtlSt) (r : Regs)
    (h : cfg.pwmRead = false) :
    computeAuto indef ph cfg fan c r =
      ([.defaultMap], { c with pwmMap := some (.default, defaultPwmMap indef) }, r) := by
  unfold computeAuto; rw [h]; rfl

theorem computeAuto_sweep (indef : Int) (ph : Phys) {cfg : FanCfg} (fan : FanSt) (c : CtlSt) (r : Regs)
    (h : cfg.pwmRead = true) :
    computeAuto indef ph cfg fan c r =
      ([.sweep], { c with pwmMap := some (.swept, sweptMap ph.resp) },
       ph.write (sweep ph (trySetManual ph cfg r)).1 (mapGet (sweptMap ph.resp) fan.getStart)) := by
  unfold computeAuto; rw [h, ← sweep_map ph (trySetManual ph cfg r)]; rfl

theorem lockedD_stored (indef : Int) (ph : Phys) {cfg : FanCfg} (fan : FanSt) (c : CtlSt) {st : DStore} (r : Regs)
    {sm : MapSrc × List (Int × Int)} (hcm : cfg.cfgMap = none) (hst : st.map = some sm) :
    computePwmMapLockedD indef ph cfg fan c st r = ([.useStored], { c with pwmMap := some sm }, st, r) := by
  unfold computePwmMapLockedD; rw [hcm, hst]

theorem lockedD_swept (indef : Int) (ph : Phys) (cfg : FanCfg) (fan : FanSt) (c : CtlSt) (st : DStore) (r : Regs)
    (hpr : cfg.pwmRead = true) (hcm : cfg.cfgMap = none) (hc : c.pwmMap = none) (hst : st.map = none) :
    computePwmMapLockedD indef ph cfg fan c st r =
      ([.sweep, .saveMap], { c with pwmMap := some (.swept, sweptMap ph.resp) },
       { st with map := some (.swept, sweptMap ph.resp) },
       ph.write (sweep ph (trySetManual ph cfg r)).1 (mapGet (sweptMap ph.resp) fan.getStart)) := by
  unfold computePwmMapLockedD
  simp only [hcm, hst, hc, computeAuto_sweep indef ph fan c r hpr]
  rfl

def floatIdent : List (Int × F64) := (List.range 256).map fun (i : Nat) => ((i : Int), F64.fin (((i : Int)) : Rat))

theorem interpolateLoop_cons (p : Int × F64) (data : List (Int × F64)) (a n : Nat) :
    interpolateLoop (p :: data) a n =
      .ok ((List.range' a n).map fun j : Nat => ((j : Int), interpLoop true (p :: data) (ofInt j))) := by
  induction n generalizing a with
  | zero => rfl
  | succ n ih =>
    rw [interpolateLoop, ← Nat.cast_add_one, ih]
    rfl

/-- `util.InterpolateLinearly({0: 0, 255: 255}, 0, 255)` is `{i ↦ float64(i) | i ∈ 0..255}`: 0 and 255 are the knots
    and come back as stored; the keys between go through `Ratio`, the product, the sum and the `float32` hop, which
    absorbs the binary64 roundings before it (`segQ_exact`). -/
theorem interpolate_identity :
    interpolateLinearly [(0, ofInt 0), (255, ofInt 255)] 0 255 = .ok floatIdent := by
  have hok : StepsOK [(0, ((0 : Int) : ℚ)), (255, ((255 : Int) : ℚ))] :=
    StepsOK.of_flat (by simp [rep64_0, rep64_ofNat 255 (by norm_num)]) (by simp)
  have key : ∀ j : Nat, j < 256 →
      interpLoop true [(0, ofInt 0), (255, ofInt 255)] (ofInt j) = fin ((j : Int) : ℚ) := fun j hj => by
    rw [ofInt_small (n := 0) (by norm_num), ofInt_small (n := 255) (by norm_num),
      ofInt_small (n := j) (abs_le.mpr ⟨by omega, by omega⟩)]
    exact (interpLoop_eq hok (t := fin _) (by simp)).trans
      (congrArg fin (curveQ_identity hok (by omega) (by omega)))
  show interpolateLoop _ ((0 : Nat) : Int) 256 = _
  rw [interpolateLoop_cons, floatIdent, List.range_eq_range']
  exact congrArg Res.ok (List.map_congr_left fun j hj => by
    rw [key j (by simpa using (List.mem_range'_1.mp hj).2)])

theorem fileCurve_eq : fileCurve = floatIdent := by
  unfold fileCurve; rw [interpolate_identity]

/-- whatever `int()` does to non-finite values (`indef`) -/
theorem defaultPwmMap_eq (indef : Int) : defaultPwmMap indef = sweptMap id := by
  unfold defaultPwmMap interpolateLinearlyInt
  have : ([(0, 0), (255, 255)] : List (Int × Int)).map (fun p => (p.1, ofInt p.2)) =
      [(0, ofInt 0), (255, ofInt 255)] := rfl
  rw [this, interpolate_identity]
  simp only [floatIdent, sweptMap, List.map_map]
  apply List.map_congr_left
  intro i hi
  have hlt : i < 256 := List.mem_range.mp hi
  simp only [Function.comp, id, Prod.mk.injEq, true_and]
  have h0 : (0 : Int) ≤ (i : Int) := by positivity
  have h1 : (i : Int) < 256 := by exact_mod_cast hlt
  exact toInt_intCast indef (by omega) (by omega)

end Fan2go.Analysis
