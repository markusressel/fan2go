/-
  The stall branch of `calculateTargetPwm`, forwards: when it fires (`calc_stalled`), what it yields
  below the maximum and when it does not fire; and what RPM polls do to the average the stall test reads.
-/
import Fan2go.Proofs.ControllerInv
import Fan2go.Proofs.ControlLoops
import Fan2go.Proofs.MovingAvg
namespace Fan2go
open F64

theorem getRpmAvg_setRpmAvg_one (indef : Int) (f : FanSt) :
    (f.setRpmAvg indef (ofInt 1)).getRpmAvg = fin 1 := by
  have : toInt indef (fin 1) = 1 := by
    simpa using toInt_intCast indef (n := 1) (by norm_num) (by norm_num)
  -- file/cmd fans keep `int(1.0)`, which is 1 again: the kind does not matter
  rw [getRpmAvg_setRpmAvg, ofInt_one, this, ofInt_one, ite_self]

theorem computedTarget_direct_none {w : World} (indef cv last now : Int) (hloop : w.ctl.loop = .direct none)
    (h0 : 0 ≤ cv) (h1 : cv ≤ 255) :
    computedTarget indef w cv last now = rescale indef cv w.floor w.fan.getMax := by
  unfold computedTarget World.floor
  rw [hloop]
  show rescale indef (clamp255 (directCycle indef none cv last)) _ _ = _
  rw [directCycle_none_byte indef cv last h0 h1, clamp255_id h0 h1]

/-- under `Inv` the third-party check cannot fail (`ensure_ok`): the outcome is that of the stall
    branch. -/
theorem calc_forward {w : World} (hinv : Inv w) (indef cv now last : Int) (hl : lastSetR w = .ok last) :
    ∃ wm obs0, Mid w wm ∧
      calculateTargetPwm indef w (.ok cv) now =
        stallBranch indef w wm obs0 (computedTarget indef w cv last now) := by
  have hne : (withLoop w (w.ctl.loop.cycle indef cv last now).1).ctl.distinct.size ≠ 0 := hinv.distinct_ne
  rw [calc_eq, hl]
  dsimp only
  rcases ensure_ok _ hne with h2 | h2 <;> rw [h2]
  · exact ⟨_, _, withLoop_mid w _, rfl⟩
  · exact ⟨_, _, bumpUnexpected_mid w _, rfl⟩

/-- The stall test is made in the world `wm` that the third-party check left, and `stallBranch_*`
    take it there. -/
theorem calc_stalled {w : World} (hinv : Inv w) (indef cv now l : Int)
    (hs : stalled indef w l = true) (hT : computedTarget indef w cv l now = l) :
    ∃ wm obs0, Mid w wm ∧ stalled indef wm l = true ∧
      calculateTargetPwm indef w (.ok cv) now = stallBranch indef w wm obs0 l := by
  obtain ⟨wm, obs0, hm, h⟩ :=
    calc_forward hinv indef cv now l (lastSetR_of_some ((stalled_iff ..).1 hs).2.2.1)
  exact ⟨wm, obs0, hm, hm.stalled .. ▸ hs, hT ▸ h⟩

theorem calc_stall_raises {w : World} (hinv : Inv w) (indef cv now l : Int)
    (hs : stalled indef w l = true) (hT : computedTarget indef w cv l now = l) (hlt : l < w.fan.getMax) :
    ∃ w' obs, calculateTargetPwm indef w (.ok cv) now = (w', .ok (l + 1), obs) ∧
      w'.ctl.offset = w.ctl.offset + 1 ∧ w'.floor = w.floor + 1 ∧
      w'.fan.getRpmAvg = fin 1 ∧
      Obs.raised w.floor (w.floor + 1) ∈ obs ∧ Obs.requested (l + 1) ∈ obs ∧ Inv w' := by
  obtain ⟨wm, obs0, hm, hs, h⟩ := calc_stalled hinv indef cv now l hs hT
  rw [stallBranch_raise hs hlt] at h
  refine ⟨_, _, h, ?_, hm.raise_floor indef, getRpmAvg_setRpmAvg_one indef wm.fan, ?_, ?_,
    (CalcCase.of_eq h).inv hinv⟩
  · rw [raiseWorld_offset, hm.offset]
  · simp
  · simp

theorem calc_not_stalled {w : World} (hinv : Inv w) (indef cv now last : Int)
    (hl : lastSetR w = .ok last)
    (hs : stalled indef w (computedTarget indef w cv last now) = false) :
    ∃ w' obs, calculateTargetPwm indef w (.ok cv) now = (w', .ok (computedTarget indef w cv last now), obs) ∧
      w'.ctl.offset = w.ctl.offset := by
  obtain ⟨wm, obs0, hm, h⟩ := calc_forward hinv indef cv now last hl
  rw [stallBranch_plain (by rw [hm.stalled]; exact hs)] at h
  exact ⟨_, _, h, hm.offset⟩

/-- a hwmon fan folds the reading into its moving average; a file/cmd fan's "average" is the stored
    reading, so the old value is gone and `int(..)` of the update remains. -/
theorem measureRpm_getRpmAvg (indef : Int) (w : World) (hhas : w.dev.hasRpm = true)
    (hread : w.dev.rpmRead = .ok) :
    (measureRpm indef w).fan.getRpmAvg =
      if w.fan.kind = .hwmon then updateSimpleMovingAvg w.fan.getRpmAvg w.rpmWindow (ofInt w.dev.rpm)
      else ofInt (toInt indef (updateSimpleMovingAvg (ofInt w.dev.rpm) w.rpmWindow (ofInt w.dev.rpm))) := by
  have hget : fanGetRpm w.fan w.dev = .ok w.dev.rpm := by
    unfold fanGetRpm; rw [hhas, hread]; rfl
  have hr : pollRpm w = w.dev.rpm := by unfold pollRpm; rw [hget]
  have h0 : (pollFan0 w).getRpmAvg = if w.fan.kind = .hwmon then w.fan.getRpmAvg else ofInt w.dev.rpm := by
    unfold pollFan0 FanSt.getRpmAvg; rw [hget]
    cases hk : w.fan.kind <;> simp [hk, hhas]
  rw [measureRpm_eq]
  show (pollCurve _ _ _).getRpmAvg = _
  rw [pollCurve_rpmAvg, getRpmAvg_setRpmAvg, (pollFan0_fanSame w).kind, h0, hr]
  split <;> rfl

theorem measureRpm_hwmon_zero (indef : Int) (w : World) (hk : w.fan.kind = .hwmon)
    (hhas : w.dev.hasRpm = true) (hread : w.dev.rpmRead = .ok) (hrpm : w.dev.rpm = 0) :
    (measureRpm indef w).fan.getRpmAvg = upd w.rpmWindow w.fan.getRpmAvg (fin 0) := by
  rw [measureRpm_getRpmAvg indef w hhas hread, if_pos hk, hrpm, ofInt_zero]; rfl

theorem measureRpm_iterate_frame (indef : Int) (w : World) (k : Nat) :
    ((measureRpm indef)^[k] w).ctl = w.ctl ∧ ((measureRpm indef)^[k] w).dev = w.dev ∧
      ((measureRpm indef)^[k] w).rpmWindow = w.rpmWindow ∧ FanSame w.fan ((measureRpm indef)^[k] w).fan := by
  induction k with
  | zero => exact ⟨rfl, rfl, rfl, FanSame.refl _⟩
  | succ k ih =>
    rw [Function.iterate_succ_apply']
    obtain ⟨a, b, c, d⟩ := ih
    exact ⟨by rw [measureRpm_ctl, a], by rw [measureRpm_dev, b], by rw [measureRpm_rpmWindow, c],
      d.trans (measureRpm_fanSame _ _)⟩

theorem measureRpm_iterate_hwmon_zero (indef : Int) (w : World) (hk : w.fan.kind = .hwmon)
    (hhas : w.dev.hasRpm = true) (hread : w.dev.rpmRead = .ok) (hrpm : w.dev.rpm = 0) (k : Nat) :
    ((measureRpm indef)^[k] w).fan.getRpmAvg = pollConst w.rpmWindow 0 k w.fan.getRpmAvg := by
  unfold pollConst
  induction k with
  | zero => rfl
  | succ k ih =>
    rw [Function.iterate_succ_apply', Function.iterate_succ_apply']
    obtain ⟨-, b, c, d⟩ := measureRpm_iterate_frame indef w k
    rw [measureRpm_hwmon_zero indef _ (by rw [d.kind, hk]) (by rw [b, hhas]) (by rw [b, hread])
      (by rw [b, hrpm]), c, ih]

/-- Polls move nothing the stall branch looks at except the average. -/
theorem calc_stall_raises_polled {w : World} (hinv : Inv w) (indef cv now l : Int) (k : Nat)
    (hl : w.ctl.lastSet = some l) (hT : computedTarget indef w cv l now = l)
    (hrpm : supports w.fan w.dev .rpmSensor = true) (hns : w.fan.neverStop = true)
    (havg : toInt indef ((measureRpm indef)^[k] w).fan.getRpmAvg ≤ 0) (hlt : l < w.fan.getMax) :
    ∃ w' obs, calculateTargetPwm indef ((measureRpm indef)^[k] w) (.ok cv) now = (w', .ok (l + 1), obs) ∧
      Obs.raised w.floor (w.floor + 1) ∈ obs := by
  obtain ⟨a, b, -, d⟩ := measureRpm_iterate_frame indef w k
  obtain ⟨w', obs, h, -, -, -, hr, -⟩ := calc_stall_raises
    (hinv.of_same d (hmap := by rw [a]) (hdist := by rw [a]) (hoff := by rw [a])) indef cv now l
    ((stalled_iff ..).2 ⟨by rw [supports_congr d.kind, b]; exact hrpm, by rw [d.neverStop]; exact hns,
      by rw [a]; exact hl, havg⟩)
    (by unfold computedTarget; rw [a, d.getMin, d.getMax]; exact hT) (by rw [d.getMax]; exact hlt)
  rw [World.floor_congr d.getMin (by rw [a])] at hr
  exact ⟨w', obs, h, hr⟩

end Fan2go
