/-
  C20 – soundness of the lockset discipline on the abstract machine of `Model/Lockset.lean`
  (mutual exclusion argument, any number of activity instances) and the facts about `conflicts`
  that tie the computed conflict list to the machine. Core Lean only.
-/
import Fan2go.Model.Lockset
namespace Fan2go.Lockset

theorem mem_conflicts_iff {tbl : List Access} {c : String × String × String} :
    c ∈ conflicts tbl ↔ ∃ a ∈ tbl, ∃ b ∈ tbl, conflict a b = true ∧ triple a b = c := by
  simp only [conflicts, rawConflicts, List.mem_eraseDups, List.mem_flatMap, List.mem_map,
    List.mem_filter, and_assoc]

/-! A conflict has a writer on one side and the other side at the writer's location, so the search
over rows × rows (the dear part of evaluating `conflicts` on the regenerated table) shrinks to
writers × rows. -/

/-- the conflicts, in either order, of the writer `w` with the rows at its location -/
def conflictsAt (tbl : List Access) (w : Access) : List (String × String × String) :=
  (tbl.filter (sameLoc w)).flatMap fun b =>
    (if conflict w b then [triple w b] else []) ++ (if conflict b w then [triple b w] else [])

def writerConflicts (tbl : List Access) : List (String × String × String) :=
  ((tbl.filter (·.write)).flatMap (conflictsAt tbl)).eraseDups

theorem sameLoc_comm (a b : Access) : sameLoc a b = sameLoc b a := by
  simp only [sameLoc, Bool.beq_comm (a := a.obj), Bool.beq_comm (a := a.field)]

theorem conflict_writer {a b : Access} (h : conflict a b = true) :
    sameLoc a b = true ∧ (a.write = true ∨ b.write = true) := by
  simp only [conflict, conflictShape, Bool.and_eq_true, Bool.or_eq_true] at h
  exact ⟨h.1.1.1, h.1.1.2⟩

theorem mem_writerConflicts {tbl : List Access} {c : String × String × String} :
    c ∈ writerConflicts tbl ↔ c ∈ conflicts tbl := by
  simp only [mem_conflicts_iff, writerConflicts, conflictsAt, List.mem_eraseDups, List.mem_flatMap,
    List.mem_filter, List.mem_append, List.mem_ite_nil_right, List.mem_singleton]
  constructor
  · rintro ⟨w, ⟨hw, _⟩, b, ⟨hb, _⟩, ⟨h, rfl⟩ | ⟨h, rfl⟩⟩
    · exact ⟨w, hw, b, hb, h, rfl⟩
    · exact ⟨b, hb, w, hw, h, rfl⟩
  · rintro ⟨a, ha, b, hb, h, rfl⟩
    obtain ⟨hl, hw | hw⟩ := conflict_writer h
    · exact ⟨a, ⟨ha, hw⟩, b, ⟨hb, hl⟩, .inl ⟨h, rfl⟩⟩
    · exact ⟨b, ⟨hb, hw⟩, a, ⟨ha, sameLoc_comm a b ▸ hl⟩, .inr ⟨h, rfl⟩⟩

theorem commonLock_iff {a b : Access} : commonLock a b = true ↔ ∃ l, l ∈ a.locks ∧ l ∈ b.locks := by
  simp only [commonLock, List.any_eq_true, List.contains_iff_mem]

theorem upd_apply {α : Type} (f : Nat → α) (i : Nat) (v : α) (j : Nat) :
    upd f i v j = if j = i then v else f j := rfl

structure Inv (tbl : List Access) (s : St) : Prop where
  excl : ∀ i j l, i ≠ j → l ∈ s.held i → l ∉ s.held j
  cur_ok : ∀ i a, s.cur i = some a → a ∈ tbl ∧ ∀ l ∈ a.locks, l ∈ s.held i

theorem Inv.init (tbl : List Access) : Inv tbl St.init :=
  ⟨fun _ _ _ _ h => (by cases h), fun _ _ h => (by cases h)⟩

theorem Inv.set_held {tbl : List Access} {s : St} (inv : Inv tbl s) {i : Nat} (hcur : s.cur i = none)
    {h' : List String} (hh : ∀ l ∈ h', l ∈ s.held i ∨ ∀ j, l ∉ s.held j) :
    Inv tbl ⟨upd s.held i h', s.cur⟩ := by
  have key : ∀ j, j ≠ i → ∀ l ∈ h', l ∉ s.held j := fun j hj l hl =>
    (hh l hl).elim (fun h => inv.excl i j l hj.symm h) (· j)
  refine ⟨fun i' j' l hne hi' hj' => ?_, fun i' a ha => ?_⟩
  · simp only [upd_apply] at hi' hj'
    split at hi' <;> split at hj'
    · next e1 e2 => exact hne (e1.trans e2.symm)
    · next _ e => exact key j' e l hi' hj'
    · next e _ => exact key i' e l hj' hi'
    · exact inv.excl i' j' l hne hi' hj'
  · have e : i' ≠ i := fun e => by rw [e, hcur] at ha; cases ha
    simp only [upd_apply, if_neg e]
    exact inv.cur_ok i' a ha

theorem Inv.set_cur {tbl : List Access} {s : St} (inv : Inv tbl s) {i : Nat} {x : Option Access}
    (hx : ∀ a, x = some a → a ∈ tbl ∧ ∀ l ∈ a.locks, l ∈ s.held i) :
    Inv tbl ⟨s.held, upd s.cur i x⟩ := by
  refine ⟨inv.excl, fun i' a ha => ?_⟩
  simp only [upd_apply] at ha
  split at ha
  · next e => exact e ▸ hx a ha
  · exact inv.cur_ok i' a ha

theorem Inv.step {tbl : List Access} {s t : St} (inv : Inv tbl s) (st : Step tbl s t) : Inv tbl t := by
  cases st with
  | acquire i l hcur hfree =>
    exact inv.set_held hcur fun l' h => (List.mem_cons.1 h).elim (fun e => .inr (e ▸ hfree)) .inl
  | release i l hcur => exact inv.set_held hcur fun l' h => .inl (List.mem_filter.1 h).1
  | «begin» i a hmem hcur hlocks => exact inv.set_cur fun a' e => by cases e; exact ⟨hmem, hlocks⟩
  | finish i => exact inv.set_cur fun a' e => by cases e

theorem Inv.of_reachable {tbl : List Access} {s : St} (h : Reachable tbl s) : Inv tbl s := by
  induction h with
  | init => exact Inv.init tbl
  | step _ st ih => exact ih.step st

theorem in_progress_no_common_lock {tbl : List Access} {s : St} (h : Reachable tbl s) {i j : Nat} {a b : Access}
    (hij : i ≠ j) (ha : s.cur i = some a) (hb : s.cur j = some b) : commonLock a b = false :=
  Bool.eq_false_iff.mpr fun hc =>
    have inv := Inv.of_reachable h
    let ⟨l, hla, hlb⟩ := commonLock_iff.mp hc
    inv.excl i j l hij ((inv.cur_ok i a ha).2 l hla) ((inv.cur_ok j b hb).2 l hlb)

theorem in_progress_mem {tbl : List Access} {s : St} (h : Reachable tbl s) {i : Nat} {a : Access}
    (ha : s.cur i = some a) : a ∈ tbl := ((Inv.of_reachable h).cur_ok i a ha).1

theorem lockset_sound {tbl : List Access}
    (hyp : ∀ a ∈ tbl, ∀ b ∈ tbl, conflictShape a b = true → commonLock a b = true) :
    ∀ s, Reachable tbl s → ¬ Race s := by
  rintro s h ⟨i, j, a, b, hij, ha, hb, hs⟩
  have h1 := hyp a (in_progress_mem h ha) b (in_progress_mem h hb) hs
  rw [in_progress_no_common_lock h hij ha hb] at h1
  cases h1

theorem race_listed {tbl : List Access} {s : St} (h : Reachable tbl s) {i j : Nat} {a b : Access}
    (hij : i ≠ j) (ha : s.cur i = some a) (hb : s.cur j = some b) (hs : conflictShape a b = true) :
    triple a b ∈ conflicts tbl :=
  mem_conflicts_iff.2 ⟨a, in_progress_mem h ha, b, in_progress_mem h hb,
    by rw [conflict, hs, in_progress_no_common_lock h hij ha hb]; rfl, rfl⟩

theorem sound_of_no_conflicts {tbl : List Access} (h : conflicts tbl = []) :
    ∀ s, Reachable tbl s → ¬ Race s := by
  rintro s hs ⟨i, j, a, b, hij, ha, hb, hc⟩
  have := race_listed hs hij ha hb hc
  rw [h] at this
  cases this

/-- two rows of race shape that take no mutex ARE reachable as a race of the machine (two
    instances begin, one after the other): the machine is not vacuous. -/
theorem conflict_reachable {tbl : List Access} {a b : Access} (ha : a ∈ tbl) (hb : b ∈ tbl)
    (hl : a.locks = []) (hl' : b.locks = []) (hs : conflictShape a b = true) :
    ∃ s, Reachable tbl s ∧ Race s := by
  let s1 : St := ⟨St.init.held, upd St.init.cur 0 (some a)⟩
  let s2 : St := ⟨s1.held, upd s1.cur 1 (some b)⟩
  have r1 : Reachable tbl s1 := .step .init (.begin St.init 0 a ha rfl fun _ h => nomatch hl ▸ h)
  have r2 : Reachable tbl s2 := .step r1 (.begin s1 1 b hb rfl fun _ h => nomatch hl' ▸ h)
  exact ⟨s2, r2, 0, 1, a, b, by decide, rfl, rfl, hs⟩

end Fan2go.Lockset
