/-
  The default PID loop in closed loop on the identity range – analysis of the abstract step relation
  `AStep` at a constant curve value and tick. The rest region `ARest` is absorbing. From the
  quasi-static region `Qpos` below the curve value the request climbs in single steps, never falls,
  and the potential `PhiN` drops by `eta` a cycle until the state is at rest. The region above the
  curve value (`Qneg`) is the image of `Qpos` under the symmetry `x ↦ 255 − x` of the recurrence
  (`AStep.mirror`), so the regions are analysed once.
-/
import Fan2go.Proofs.PidLoop
namespace Fan2go
open F64

theorem AStep.move_up {c x ep x' : Int} {t I J : ℚ} (h : AStep c t x I ep x' J) (n : Int)
    (hn : 1 ≤ n) (hxn : x + n ≤ 255)
    (hu : (n : ℚ) - 1 / 2 + eps ≤ uExact ((c - x : Int) : ℚ) ep I t) : x + n ≤ x' :=
  h.up (x + n) (by have := h.x0; omega) hxn (by push_cast at hu ⊢; linarith)

theorem AStep.move_dn {c x ep x' : Int} {t I J : ℚ} (h : AStep c t x I ep x' J) (n : Int)
    (hn : 1 ≤ n) (hxn : 0 ≤ x - n)
    (hu : uExact ((c - x : Int) : ℚ) ep I t ≤ -((n : ℚ) - 1 / 2 + eps)) : x' ≤ x - n := by
  have hx1 := h.x1
  have := h.dn (x - n + 1) (by omega) (by omega) (by push_cast at hu ⊢; linarith)
  omega

theorem AStep.clamp_le {c x ep x' : Int} {t I J : ℚ} (h : AStep c t x I ep x' J) (z : Int)
    (hz : (z : ℚ) - 1 / 2 + eps ≤ (x : ℚ) + uExact ((c - x : Int) : ℚ) ep I t) :
    clamp255 z ≤ x' := by
  have hr := clamp255_range z
  rcases eq_or_lt_of_le hr.1 with e | l
  · rw [← e]; exact h.x'0
  · have : ((clamp255 z : Int) : ℚ) ≤ z := by exact_mod_cast clamp255_le_of_pos l
    exact h.up _ (by omega) hr.2 (by linarith)

theorem AStep.le_clamp {c x ep x' : Int} {t I J : ℚ} (h : AStep c t x I ep x' J) (z : Int)
    (hz : (x : ℚ) + uExact ((c - x : Int) : ℚ) ep I t ≤ (z : ℚ) + 1 / 2 - eps) :
    x' ≤ clamp255 z := by
  have hr := clamp255_range z
  rcases eq_or_lt_of_le hr.2 with e | l
  · rw [e]; exact h.x'1
  · have : (z : ℚ) ≤ ((clamp255 z : Int) : ℚ) := by exact_mod_cast le_clamp255_of_lt l
    have := h.dn (clamp255 z + 1) (by omega) (by omega) (by
      rw [Int.cast_add, Int.cast_one]; linarith)
    omega

/-- 175: `3/10 · 175 = 52.5` exceeds the largest derivative term 51.2 (`uExact_close`) by more than
    `1/2 + eps` (173 would do). -/
theorem AStep.far_up {c x ep x' : Int} {t I J : ℚ} (h : AStep c t x I ep x' J) (ht : TickOk t)
    (hfar : 175 ≤ c - x) (hI : 0 ≤ I) : x < x' := by
  have hc1 := h.c1
  have hu := abs_le.mp
    (uExact_close (ep := ep) (I := I) h.e_abs (by exact_mod_cast h.ep_abs) ht.t0)
  have hfq : (175 : ℚ) ≤ ((c - x : Int) : ℚ) := by exact_mod_cast hfar
  have het : 0 ≤ ((c - x : Int) : ℚ) * t :=
    mul_nonneg (by linarith only [hfq]) (by linarith only [ht.t0])
  have := h.move_up 1 le_rfl (by omega) (by
    rw [eps_val, Int.cast_one]; linarith only [hu.1, hfq, het, hI])
  omega

theorem AStep.far_dn {c x ep x' : Int} {t I J : ℚ} (h : AStep c t x I ep x' J) (ht : TickOk t)
    (hfar : c - x ≤ -175) (hI : I ≤ 0) : x' < x := by
  have := h.mirror.far_up ht (by omega) (by linarith)
  omega

/-- request = curve value, and the integral (and the derivative kick of the last move) too small to
    move the request – or pushing it against the end of the scale (curve value 0 or 255): the state
    never changes again. -/
structure ARest (c : Int) (t : ℚ) (x : Int) (I : ℚ) (ep : Int) : Prop where
  xc : x = c
  now_lo : c ≠ 0 → -(1 / 2 - 2 * eps) ≤ 1 / 50 * I + 1 / 200 * ((0 - (ep : ℚ)) / t)
  now_hi : c ≠ 255 → 1 / 50 * I + 1 / 200 * ((0 - (ep : ℚ)) / t) ≤ 1 / 2 - 2 * eps
  later_lo : c ≠ 0 → -(1 / 2 - 2 * eps) ≤ 1 / 50 * I
  later_hi : c ≠ 255 → 1 / 50 * I ≤ 1 / 2 - 2 * eps

theorem ARest.of_abs {c x ep : Int} {t I : ℚ} (hx : x = c)
    (hnow : |1 / 50 * I + 1 / 200 * ((0 - (ep : ℚ)) / t)| ≤ 1 / 2 - 2 * eps)
    (hlater : |1 / 50 * I| ≤ 1 / 2 - 2 * eps) : ARest c t x I ep :=
  ⟨hx, fun _ => neg_le_of_abs_le hnow, fun _ => le_of_abs_le hnow, fun _ => neg_le_of_abs_le hlater,
    fun _ => le_of_abs_le hlater⟩

theorem AStep.rest_step {c x ep x' : Int} {t I J : ℚ} (h : AStep c t x I ep x' J)
    (hr : ARest c t x I ep) : x' = c ∧ J = I ∧ ARest c t x' J (c - x) := by
  obtain ⟨rfl, hnl, hnh, hll, hlh⟩ := hr
  have hJ : J = I := le_antisymm (h.Jle (by omega)) (h.Jge (by omega))
  have hu : uExact ((x - x : Int) : ℚ) ep I t = 1 / 50 * I + 1 / 200 * ((0 - (ep : ℚ)) / t) := by
    unfold uExact; simp
  have hlo := h.clamp_le x
  have hhi := h.le_clamp x
  rw [clamp255_id h.x0 h.x1, hu] at hlo hhi
  have hε := eps_val
  have hx : x' = x := by
    apply le_antisymm
    · rcases eq_or_ne x 255 with e | e
      · rw [e]; exact h.x'1
      · exact hhi (by linarith only [hnh e, hε])
    · rcases eq_or_ne x 0 with e | e
      · rw [e]; exact h.x'0
      · exact hlo (by linarith only [hnl e, hε])
  subst hJ
  exact ⟨hx, rfl, hx, fun hc => by simpa using hll hc, fun hc => by simpa using hlh hc, hll, hlh⟩

theorem ARest.of_mirror {c x ep : Int} {t I : ℚ} (h : ARest (255 - c) t (255 - x) (-I) (-ep)) :
    ARest c t x I ep := by
  obtain ⟨h1, h2, h3, h4, h5⟩ := h
  have e1 : (1 : ℚ) / 50 * -I + 1 / 200 * ((0 - ((-ep : Int) : ℚ)) / t)
      = -(1 / 50 * I + 1 / 200 * ((0 - (ep : ℚ)) / t)) := by push_cast; ring
  have e2 : (1 : ℚ) / 50 * -I = -(1 / 50 * I) := by ring
  rw [e1] at h2 h3
  rw [e2] at h4 h5
  exact ⟨by omega, fun _ => neg_le.mp (h3 (by omega)), fun _ => neg_le_neg_iff.mp (h2 (by omega)),
    fun _ => neg_le.mp (h5 (by omega)), fun _ => neg_le_neg_iff.mp (h4 (by omega))⟩

/-- the derivative gain per unit of error change: `d / t`. -/
def dl (t : ℚ) : ℚ := 1 / 200 * (1 / t)

/-- `1/(200·t)` at the shortest tick `t = 499/10000` is 0.10020…; `1003/10000` is that, rounded up. -/
theorem dl_bounds {t : ℚ} (ht : TickOk t) : 0 < dl t ∧ dl t ≤ 1003 / 10000 := by
  have htp : 0 < t := by linarith [ht.t0]
  unfold dl
  constructor
  · positivity
  · have : 1 / t ≤ 1 / (499 / 10000) := one_div_le_one_div_of_le (by norm_num) ht.t0
    norm_num at this ⊢
    linarith

/-- the proportional + integral part of the next output. -/
def Gq (c x : Int) (I t : ℚ) : ℚ :=
  3 / 10 * ((c - x : Int) : ℚ) + 1 / 50 * (I + ((c - x : Int) : ℚ) * t)

/-- minimal growth of `Gq` per cycle in which the request does not move (error ≥ 1). -/
def eta (t : ℚ) : ℚ := t / 50 - eps

/-- Quasi-static region below the curve value: error `e ≥ 1` with `e·t ≤ 12.5`, the last move was 0
    or +1, and the PI signal is inside the band where the next move is again 0 or +1. -/
structure Qpos (c : Int) (t : ℚ) (x : Int) (I : ℚ) (ep : Int) : Prop where
  e1 : 1 ≤ c - x
  /-- keeps the integral step `1/50·e·t ≤ 1/4` below the `3/10` that `Gq` loses when the request moves
      by one, which is why `hi` survives a move (`Qpos.move`). -/
  et : ((c - x : Int) : ℚ) * t ≤ 25 / 2
  v : ep = c - x ∨ ep = c - x + 1
  /-- the exact output `Gq − dl·(ep − e)` (`uExact_eq_Gq`) is at least `−49/100 > −1/2 + eps`: the
      request does not fall. -/
  lo : 0 < x → -49 / 100 + dl t * ((ep - (c - x) : Int) : ℚ) ≤ Gq c x I t
  /-- `1/2 + dl`: where a cycle without a move leaves `Gq` (output below `1/2 + eps`, derivative kick at
      most `dl`); `1/50·e·t`: the integral step of that cycle; `1/1000` absorbs the `eps` terms. -/
  hi : Gq c x I t ≤ 1 / 2 + dl t + 1 / 1000 + 1 / 50 * (((c - x : Int) : ℚ) * t)

/-- potential: decreases by at least `eta t` per cycle inside `Qpos`. `31/100`: a move by one costs `Gq`
    the `3/10` of the P term, and `1/100` is margin for `eps/50`; `3/2`: keeps the potential positive
    inside `Qpos`, where `Gq < 1` (`ATraj.settle_Qpos`, case 0). -/
def PhiN (c : Int) (t : ℚ) (x : Int) (I : ℚ) : ℚ :=
  (31 / 100 + eta t) * ((c - x : Int) : ℚ) + (3 / 2 - Gq c x I t)

theorem uExact_eq_Gq (c x ep : Int) (I t : ℚ) :
    uExact ((c - x : Int) : ℚ) ep I t = Gq c x I t - dl t * ((ep - (c - x) : Int) : ℚ) := by
  unfold uExact Gq dl; push_cast; ring

theorem Qpos.kick {c x ep : Int} {t I : ℚ} (hq : Qpos c t x I ep) (ht : TickOk t) :
    0 ≤ dl t * ((ep - (c - x) : Int) : ℚ) ∧ dl t * ((ep - (c - x) : Int) : ℚ) ≤ dl t := by
  have hd := (dl_bounds ht).1.le
  rcases hq.v with h | h <;> simp [h, hd]

theorem Qpos.stay {c x ep : Int} {t I J : ℚ} (hq : Qpos c t x I ep) (ht : TickOk t)
    (hJc : |J - (I + ((c - x : Int) : ℚ) * t)| ≤ eps)
    (hu : uExact ((c - x : Int) : ℚ) ep I t < 1 / 2 + eps) :
    Qpos c t x J (c - x) ∧ PhiN c t x J + eta t ≤ PhiN c t x I := by
  obtain ⟨hδ0, hδ1⟩ := hq.kick ht
  rw [uExact_eq_Gq] at hu
  have hG : Gq c x J t = Gq c x I t + 1 / 50 * (J - I) := by unfold Gq; ring
  have he1 : (1 : ℚ) ≤ ((c - x : Int) : ℚ) := by exact_mod_cast hq.e1
  have ht0 := ht.t0
  have hett : t ≤ ((c - x : Int) : ℚ) * t := le_mul_of_one_le_left (by linarith) he1
  have hJ := abs_le.mp hJc
  have hε := eps_val
  refine ⟨⟨hq.e1, hq.et, Or.inl rfl, fun h => ?_, ?_⟩, ?_⟩
  · simp only [sub_self, Int.cast_zero, mul_zero, add_zero]; rw [hG]
    linarith only [hq.lo h, hδ0, hJ.1, hett, ht0, hε]
  · rw [hG]; linarith only [hu, hδ1, hJ.2, hε]
  · unfold PhiN eta; rw [hG]; linarith only [hJ.1, hett, hε]

theorem Qpos.move {c x ep : Int} {t I J : ℚ} (hq : Qpos c t x I ep) (ht : TickOk t)
    (hJc : |J - (I + ((c - x : Int) : ℚ) * t)| ≤ eps)
    (hu : 1 / 2 - eps < uExact ((c - x : Int) : ℚ) ep I t) :
    (Qpos c t (x + 1) J (c - x) ∧ PhiN c t (x + 1) J + eta t ≤ PhiN c t x I) ∨
      ARest c t (x + 1) J (c - x) := by
  have hδ0 := (hq.kick ht).1
  obtain ⟨hd0, hd1⟩ := dl_bounds ht
  rw [uExact_eq_Gq] at hu
  have hcast : ((c - (x + 1) : Int) : ℚ) = ((c - x : Int) : ℚ) - 1 := by push_cast; ring
  have hG : Gq c (x + 1) J t = Gq c x I t - 3 / 10 + 1 / 50 * (J - (I + ((c - x : Int) : ℚ) * t))
      + 1 / 50 * (((c - x : Int) : ℚ) * t - t) := by
    unfold Gq; rw [hcast]; ring
  have he1 : (1 : ℚ) ≤ ((c - x : Int) : ℚ) := by exact_mod_cast hq.e1
  have ht0 := ht.t0
  have ht1 := ht.t1
  have hett : t ≤ ((c - x : Int) : ℚ) * t := le_mul_of_one_le_left (by linarith) he1
  have hJ := abs_le.mp hJc
  have hε := eps_val
  have hhi := hq.hi
  have het := hq.et
  rcases eq_or_ne (c - x) 1 with hlast | hlast
  · right
    have hG0 : Gq c (x + 1) J t = 1 / 50 * J := by
      unfold Gq; rw [show c - (x + 1) = 0 by omega]; simp
    have hkick : (1 : ℚ) / 200 * ((0 - ((1 : Int) : ℚ)) / t) = - dl t := by
      unfold dl; push_cast; ring
    rw [hlast] at hG hhi hJ
    simp only [Int.cast_one, one_mul] at hG hhi hJ
    refine ⟨by omega, ?_, ?_, ?_, ?_⟩ <;> intro _
    · rw [hlast, ← hG0, hG, hkick]; linarith only [hu, hδ0, hJ.1, hd1, hε]
    · rw [hlast, ← hG0, hG, hkick]; linarith only [hhi, hd0, hd1, ht1, hJ.2, hε]
    · rw [← hG0, hG]; linarith only [hu, hδ0, hJ.1, hε]
    · rw [← hG0, hG]; linarith only [hhi, hd1, ht1, hJ.2, hε]
  · left
    have hq1 := hq.e1
    refine ⟨⟨by omega, ?_, Or.inr (by omega), fun _ => ?_, ?_⟩, ?_⟩
    · rw [hcast]; linarith only [het, ht0]
    · rw [show ((c - x - (c - (x + 1)) : Int) : ℚ) = 1 by push_cast; ring, hG]
      linarith only [hu, hδ0, hJ.1, hett, hd1, hε]
    · rw [hG, hcast]; linarith only [hhi, het, hJ.2, hε]
    · unfold PhiN eta
      rw [hG, hcast]; linarith only [hJ.1, hett, hε]

theorem AStep.qpos_step {c x ep x' : Int} {t I J : ℚ} (h : AStep c t x I ep x' J) (ht : TickOk t)
    (hq : Qpos c t x I ep) :
    (Qpos c t x' J (c - x) ∧ PhiN c t x' J + eta t ≤ PhiN c t x I) ∨ ARest c t x' J (c - x) := by
  obtain ⟨hδ0, hδ1⟩ := hq.kick ht
  have hue := uExact_eq_Gq c x ep I t
  have hd1 := (dl_bounds ht).2
  have hε := eps_val
  have he1 := hq.e1
  have hx'0 := h.x'0
  have hc1 := h.c1
  have hx0 := h.x0
  -- the move is 0 or +1: the exact output lies in (−1/2, 3/2)
  have hge : x ≤ x' := by
    rcases eq_or_lt_of_le hx0 with e | l
    · omega
    · have := hq.lo l
      exact h.up x (by omega) (by omega) (by rw [hue]; linarith only [this, hδ0, hε])
  have hle : x' ≤ x + 1 := by
    have := h.le_clamp (x + 1) (by
      rw [hue, Int.cast_add, Int.cast_one]; linarith only [hq.hi, hq.et, hδ0, hd1, hε])
    rwa [clamp255_id (by omega) (by omega)] at this
  rcases (by omega : x' = x ∨ x' = x + 1) with rfl | rfl
  · refine Or.inl (hq.stay ht h.Jc ?_)
    by_contra hc
    have := h.up (x' + 1) (by omega) (by omega) (by
      simp only [Int.cast_add, Int.cast_one]; linarith only [not_lt.mp hc])
    omega
  · refine hq.move ht h.Jc ?_
    by_contra hc
    have := h.dn (x + 1) (by omega) (by omega) (by
      simp only [Int.cast_add, Int.cast_one]; linarith only [not_lt.mp hc])
    omega

/-- Quasi-static region above the curve value (mirror image of `Qpos`). -/
def Qneg (c : Int) (t : ℚ) (x : Int) (I : ℚ) (ep : Int) : Prop :=
  Qpos (255 - c) t (255 - x) (-I) (-ep)

/-- a closed-loop run at constant curve value and tick, as sequences: request `X k`, integral `I k`
    and previous error `E k` before cycle `k`. -/
structure ATraj (c : Int) (t : ℚ) (X : Nat → Int) (I : Nat → ℚ) (E : Nat → Int) : Prop where
  step : ∀ k, AStep c t (X k) (I k) (E k) (X (k + 1)) (I (k + 1))
  ep_succ : ∀ k, E (k + 1) = c - X k
  tick : TickOk t

theorem ATraj.ep_abs {c : Int} {t : ℚ} {X : Nat → Int} {I : Nat → ℚ} {E : Nat → Int}
    (T : ATraj c t X I E) (k : Nat) : |E k| ≤ 255 :=
  (T.step k).ep_abs

theorem ATraj.mirror {c : Int} {t : ℚ} {X : Nat → Int} {I : Nat → ℚ} {E : Nat → Int}
    (T : ATraj c t X I E) :
    ATraj (255 - c) t (fun k => 255 - X k) (fun k => - I k) (fun k => - E k) := by
  refine ⟨fun k => (T.step k).mirror, ?_, T.tick⟩
  intro k
  show -E (k + 1) = 255 - c - (255 - X k)
  rw [T.ep_succ k]; ring

theorem ATraj.rest_forever {c : Int} {t : ℚ} {X : Nat → Int} {I : Nat → ℚ} {E : Nat → Int}
    (T : ATraj c t X I E) {k : Nat} (hr : ARest c t (X k) (I k) (E k)) :
    ∀ j, ARest c t (X (k + j)) (I (k + j)) (E (k + j)) ∧ X (k + j) = c ∧ I (k + j) = I k := by
  intro j
  induction j with
  | zero => exact ⟨hr, hr.xc, rfl⟩
  | succ j ih =>
    obtain ⟨r, _, hI⟩ := ih
    obtain ⟨a, b, d⟩ := (T.step (k + j)).rest_step r
    rw [← T.ep_succ (k + j)] at d
    exact ⟨d, a, by rw [show k + (j + 1) = k + j + 1 from rfl, b, hI]⟩

/-- the potential falls by `eta t` a cycle (`AStep.qpos_step`) and is positive inside `Qpos`: after at
    most `n` cycles the state has left `Qpos`, and it leaves only into `ARest`. -/
theorem ATraj.settle_Qpos {c : Int} {t : ℚ} {X : Nat → Int} {I : Nat → ℚ} {E : Nat → Int}
    (T : ATraj c t X I E) (n k : Nat) (hq : Qpos c t (X k) (I k) (E k))
    (hphi : PhiN c t (X k) (I k) ≤ n * eta t) :
    ∃ j, j ≤ n ∧ ARest c t (X (k + j)) (I (k + j)) (E (k + j)) := by
  have hη : 0 < eta t := by
    have := T.tick.t0
    have hε := eps_val
    unfold eta; linarith
  induction n generalizing k with
  | zero =>
    exfalso
    have hd1 := (dl_bounds T.tick).2
    have he1q : (1 : ℚ) ≤ ((c - X k : Int) : ℚ) := by exact_mod_cast hq.e1
    unfold PhiN eta at hphi
    rw [eps_val, Nat.cast_zero, zero_mul] at hphi
    linarith only [hphi, hq.hi, hd1, he1q]
  | succ n ih =>
    rcases (T.step k).qpos_step T.tick hq with ⟨hq', hdec⟩ | hr
    · rw [← T.ep_succ k] at hq'
      have : PhiN c t (X (k + 1)) (I (k + 1)) ≤ n * eta t := by
        push_cast at hphi; linarith
      obtain ⟨j, hj, hr⟩ := ih (k + 1) hq' this
      exact ⟨j + 1, by omega, by rw [show k + (j + 1) = k + 1 + j by omega]; exact hr⟩
    · rw [← T.ep_succ k] at hr
      exact ⟨1, by omega, hr⟩

theorem ATraj.settle_Qneg {c : Int} {t : ℚ} {X : Nat → Int} {I : Nat → ℚ} {E : Nat → Int}
    (T : ATraj c t X I E) (n : Nat) (k : Nat) (hq : Qneg c t (X k) (I k) (E k))
    (hphi : PhiN (255 - c) t (255 - X k) (- I k) ≤ n * eta t) :
    ∃ j, j ≤ n ∧ ARest c t (X (k + j)) (I (k + j)) (E (k + j)) := by
  obtain ⟨j, hj, hr⟩ := T.mirror.settle_Qpos n k hq hphi
  exact ⟨j, hj, hr.of_mirror⟩

/-- the closed-loop run with a constant curve value `c` and a constant tick period `dt` (ns). -/
def pidRunC (indef c dt now0 : Int) (s0 : PidSt × Int) (k : Nat) : PidSt × Int :=
  pidRun indef (fun _ => c) (fun k => now0 + k * dt) s0 k

theorem pidRunC_succ (indef c dt now0 : Int) (s0 : PidSt × Int) (k : Nat) :
    pidRunC indef c dt now0 s0 (k + 1)
      = pidClosed indef c (pidRunC indef c dt now0 s0 k) (now0 + ((k + 1 : Nat) : Int) * dt) := rfl

theorem tick_sub (now0 dt : Int) (k : Nat) :
    now0 + ((k + 1 : Nat) : Int) * dt - (now0 + (k : Int) * dt) = dt := by push_cast; ring

theorem pidRunC_runSt (indef : Int) {c dt now0 : Int} {s0 : PidSt × Int} (r0 : RunSt s0 now0)
    (hc0 : 0 ≤ c) (hc1 : c ≤ 255) (h0 : 50000000 ≤ dt) (h1 : dt ≤ 2000000000) (k : Nat) :
    RunSt (pidRunC indef c dt now0 s0 k) (now0 + k * dt) :=
  pidRun_runSt indef (fun _ => c) (fun k => now0 + k * dt) s0 (by simpa using r0)
    (fun _ => ⟨hc0, hc1⟩) (fun k => by rw [tick_sub]; exact ⟨h0, h1⟩) k

theorem pidRunC_traj (indef : Int) {c dt now0 : Int} {s0 : PidSt × Int} (r0 : RunSt s0 now0)
    (hc0 : 0 ≤ c) (hc1 : c ≤ 255) (h0 : 50000000 ≤ dt) (h1 : dt ≤ 2000000000) :
    ATraj c (secOf dt) (fun k => (pidRunC indef c dt now0 s0 k).2)
      (fun k => intOf (pidRunC indef c dt now0 s0 k).1)
      (fun k => errOf (pidRunC indef c dt now0 s0 k).1) := by
  have hr := pidRunC_runSt indef r0 hc0 hc1 h0 h1
  have hstep (k : Nat) := (hr k).step indef hc0 hc1 (now := now0 + ((k + 1 : Nat) : Int) * dt)
    (by rw [tick_sub]; exact h0) (by rw [tick_sub]; exact h1)
  refine ⟨fun k => ?_, fun k => ?_, (secondsOfNanos_tick h0 h1).2.1⟩
  · obtain ⟨_, _, _, ha⟩ := hstep k
    rwa [tick_sub] at ha
  · obtain ⟨_, hE, _⟩ := hstep k
    exact hE

theorem pidRunC_rest_forever (indef : Int) {c dt now0 : Int} {s0 : PidSt × Int}
    (r0 : RunSt s0 now0) (hc0 : 0 ≤ c) (hc1 : c ≤ 255) (h0 : 50000000 ≤ dt)
    (h1 : dt ≤ 2000000000) (k : Nat)
    (hr : ARest c (secOf dt) (pidRunC indef c dt now0 s0 k).2
      (intOf (pidRunC indef c dt now0 s0 k).1) (errOf (pidRunC indef c dt now0 s0 k).1)) :
    ∀ m, k ≤ m → (pidRunC indef c dt now0 s0 m).2 = c ∧
      intOf (pidRunC indef c dt now0 s0 m).1 = intOf (pidRunC indef c dt now0 s0 k).1 := by
  have T := pidRunC_traj indef r0 hc0 hc1 h0 h1
  intro m hm
  obtain ⟨j, rfl⟩ : ∃ j, m = k + j := ⟨m - k, by omega⟩
  exact ((T.rest_forever hr) j).2

end Fan2go
