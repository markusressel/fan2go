/-
  `util.CalculateInterpolatedCurveValue` (`interpLoop` / `interp`) and the steps form of the linear
  curve (`linSteps`). For a finite input the Go loop computes the piecewise function `curveQ` on
  rationals, whose segments `segQ` carry the explicit float64 / float32 roundings; `curveF` extends it
  to ±Inf (`interpLoop_curveF`). Every bound on a segment value is an instance of `segQ_sandwich`;
  what is proved of `curveQ` / `curveF` is read off for `linSteps` through `linSteps_val`.
-/
import Fan2go.Proofs.F64Ops
import Fan2go.Proofs.Util
import Fan2go.Proofs.FoldMinMax
import Fan2go.Model.Curves

namespace Fan2go
open F64

/-- float64 value of `(t - x) / (x' - x) * 100`, the percentage inside `util.Ratio`. -/
def ratio100 (t x x' : ℚ) : ℚ := fl64 (fl64 (fl64 (t - x) / fl64 (x' - x)) * 100)

/-- float64 value of `util.Ratio(t, x, x')` for finite operands. -/
def ratioQ (t x x' : ℚ) : ℚ := fl64 (ratio100 t x x' / 100)

/-- float64 value of `float64(float32(y + ratio*(y' - y)))` for finite operands. -/
def segQ (t x x' y y' : ℚ) : ℚ := fl32 (fl64 (y + fl64 (ratioQ t x x' * fl64 (y' - y))))

theorem ratio100_mem {t x x' : ℚ} (h1 : x ≤ t) (h2 : t ≤ x') :
    0 ≤ ratio100 t x x' ∧ ratio100 t x x' ≤ 100 :=
  let ⟨a0, a1⟩ := fl64_ramp_mem_unit h1 h2
  fl64_unit_mul_mem a0 a1 (rep64_ofNat 100 (by norm_num)) (by norm_num)

theorem ratioQ_bounds {t x x' : ℚ} (h1 : x ≤ t) (h2 : t ≤ x') :
    0 ≤ ratioQ t x x' ∧ ratioQ t x x' ≤ 1 :=
  let ⟨b0, b1⟩ := ratio100_mem h1 h2
  fl64_div_mem_unit b0 b1

theorem ratioQ_mono {t t' x x' : ℚ} (hx : x ≤ x') (h : t ≤ t') :
    ratioQ t x x' ≤ ratioQ t' x x' := by
  have h3 : ratio100 t x x' ≤ ratio100 t' x x' := fl64_mono (by linarith [fl64_ramp_mono hx h])
  exact fl64_mono (div_le_div_of_nonneg_right h3 (by norm_num))

/-- a configured speed. Of `rep` only the range of a segment makes use (`segQ_range`: `-y` is a
    binary64 value that the rounded `y' - y` cannot fall below). -/
structure SpeedOK (y : ℚ) : Prop where
  rep : Rep64 y
  nonneg : 0 ≤ y
  le255 : y ≤ 255

/-- `ly'` bounds the end of the segment as it is computed, `y + float64(y' - y)`, not `y'`. The lower
    side is plain monotonicity of the roundings, the upper side is `fl32_fl64_add_le`. -/
theorem segQ_sandwich {t x x' y y' lo hi : ℚ} (h1 : x ≤ t) (h2 : t ≤ x') (hy0 : 0 ≤ y)
    (hlo : Rep32 lo) (hhi : Rep32 hi) (ly : lo ≤ y) (ly' : lo ≤ y + fl64 (y' - y))
    (uy : y ≤ hi) (uy' : y' ≤ hi) : lo ≤ segQ t x x' y y' ∧ segQ t x x' y y' ≤ hi := by
  obtain ⟨r0, r1⟩ := ratioQ_bounds h1 h2
  obtain ⟨p0, p1⟩ := fl64_unit_mul_bounds r0 r1 (rep64_fl64 (y' - y))
  have l : lo - y ≤ min 0 (fl64 (y' - y)) := le_min (by linarith) (by linarith)
  have u : max 0 (fl64 (y' - y)) ≤ fl64 (hi - y) :=
    max_le (fl64_nonneg (by linarith)) (fl64_mono (by linarith))
  exact ⟨le_fl32_of_rep_le hlo (le_fl64_of_rep_le (rep32_rep64 hlo) (by linarith)),
    fl32_fl64_add_le hy0 hhi uy (p1.trans u)⟩

theorem segQ_range {t x x' y y' : ℚ} (h1 : x ≤ t) (h2 : t ≤ x') (hy : SpeedOK y) (hy' : SpeedOK y') :
    0 ≤ segQ t x x' y y' ∧ segQ t x x' y y' ≤ 255 := by
  have e : -y ≤ fl64 (y' - y) := le_fl64_of_rep_le hy.rep.neg (by linarith [hy'.nonneg])
  exact segQ_sandwich h1 h2 hy.nonneg fl32_zero
    (by exact_mod_cast byte_rep32 (n := 255) (by norm_num) le_rfl) hy.nonneg (by linarith)
    hy.le255 hy'.le255

theorem segQ_between {t x x' y y' : ℚ} (h1 : x ≤ t) (h2 : t ≤ x') (hy0 : 0 ≤ y)
    (hyy : y ≤ y') (hr : Rep32 y) (hr' : Rep32 y') :
    y ≤ segQ t x x' y y' ∧ segQ t x x' y y' ≤ y' :=
  segQ_sandwich h1 h2 hy0 hr hr' le_rfl (by linarith [fl64_nonneg (sub_nonneg.mpr hyy)]) hyy le_rfl

theorem segQ_between_int {t x x' : ℚ} (h1 : x ≤ t) (h2 : t ≤ x') {a b : Int}
    (ha : SpeedOK (a : ℚ)) (hb : SpeedOK (b : ℚ)) :
    ((min a b : Int) : ℚ) ≤ segQ t x x' a b ∧ segQ t x x' a b ≤ ((max a b : Int) : ℚ) := by
  have ha0 : 0 ≤ a := by exact_mod_cast ha.nonneg
  have ha1 : a ≤ 255 := by exact_mod_cast ha.le255
  have hb0 : 0 ≤ b := by exact_mod_cast hb.nonneg
  have hb1 : b ≤ 255 := by exact_mod_cast hb.le255
  -- the difference `b - a` is exact, so the end of the segment is computed as `b` itself
  have hd : (a : ℚ) + fl64 ((b : ℚ) - a) = b := by
    rw [← Int.cast_sub, fl64_intCast _ (abs_le.mpr ⟨by omega, by omega⟩)]; push_cast; ring
  exact segQ_sandwich h1 h2 ha.nonneg (byte_rep32 (by omega) (by omega))
    (byte_rep32 (by omega) (by omega)) (by exact_mod_cast min_le_left a b)
    (by rw [hd]; exact_mod_cast min_le_right a b) (by exact_mod_cast le_max_left a b)
    (by exact_mod_cast le_max_right a b)

theorem segQ_mono {t t' x x' y y' : ℚ} (hx : x ≤ x') (hyy : y ≤ y') (h : t ≤ t') :
    segQ t x x' y y' ≤ segQ t' x x' y y' := by
  unfold segQ
  have hd0 : 0 ≤ fl64 (y' - y) := fl64_nonneg (by linarith)
  have hr := ratioQ_mono hx h
  have h1 : fl64 (ratioQ t x x' * fl64 (y' - y)) ≤ fl64 (ratioQ t' x x' * fl64 (y' - y)) :=
    fl64_mono (mul_le_mul_of_nonneg_right hr hd0)
  exact fl32_mono (fl64_mono (by linarith))

theorem seg_bounds {t x x' y y' : ℚ} (h1 : x ≤ t) (h2 : t ≤ x') (hy : SpeedOK y) (hy' : SpeedOK y') :
    |y' - y| ≤ 2 ^ 8 ∧ |ratioQ t x x' * fl64 (y' - y)| ≤ 2 ^ 8 ∧
      |y + fl64 (ratioQ t x x' * fl64 (y' - y))| ≤ 2 ^ 9 := by
  obtain ⟨r0, r1⟩ := ratioQ_bounds h1 h2
  have hy8 : |y| ≤ 2 ^ 8 := by rw [abs_of_nonneg hy.nonneg]; linarith [hy.le255]
  have hd : |y' - y| ≤ 2 ^ 8 := abs_le.mpr
    ⟨by linarith [hy.le255, hy'.nonneg], by linarith [hy.nonneg, hy'.le255]⟩
  have hp : |ratioQ t x x' * fl64 (y' - y)| ≤ 2 ^ 8 :=
    (abs_unit_mul_le r0 r1 _).trans (abs_fl64_le_two_pow 8 hd)
  exact ⟨hd, hp, (abs_add_le _ _).trans (by linarith [abs_fl64_le_two_pow 8 hp])⟩

theorem ratioQ_close {t x x' : ℚ} (hW : Rep64 (x' - x)) (hW1 : 1 ≤ x' - x) (h1 : x ≤ t)
    (h2 : t ≤ x') : |ratioQ t x x' - (t - x) / (x' - x)| ≤ 1 / 2 ^ 50 := by
  obtain ⟨a0, a1⟩ := ratio100_mem h1 h2
  have hη : pow2 (-1075) ≤ pow2 (-53) := pow2_mono (by norm_num)
  -- `300·2^-53 + 201·2^-1075 ≤ 501·2^-53`; a hundredth of that, and one rounding of a value `≤ 1`
  have e100 : |ratio100 t x x' - 100 * ((t - x) / (x' - x))| ≤ 501 / 2 ^ 53 := by
    unfold ratio100; rw [fl64_of_rep hW]
    exact (fl64_ramp_close (sub_nonneg.mpr h1) (sub_le_sub_right h2 _) hW1 hW (by norm_num)).trans
      (by linarith only [pow2_m53, hη])
  have er := abs_div_le' e100 (by norm_num) (le_refl 100)
  rw [sub_div, mul_div_cancel_left₀ _ (by norm_num)] at er
  exact (fl64_near_num (abs_div_le' ((abs_of_nonneg a0).trans_le a1) (by norm_num) le_rfl) er).trans
    (by norm_num)

/-- The binary64 roundings (four in `Ratio`, one each for difference, product and sum) leave an
    absolute error below `2^-40`, and for `v ≥ 2^-10` the `float32` hop takes all within `v·2^-30`
    to `v`. -/
theorem segQ_exact {t : ℚ} {x x' : Int} {y y' v : ℚ} (hx : |x| ≤ 2 ^ 50) (hx' : |x'| ≤ 2 ^ 50)
    (hlt : x < x') (h1 : (x : ℚ) ≤ t) (h2 : t ≤ x') (hy : SpeedOK y) (hy' : SpeedOK y')
    (hv : v = y + (t - x) / (x' - x) * (y' - y)) (hr : Rep32 v) (hlo : 1 / 2 ^ 10 ≤ v) :
    segQ t x x' y y' = v := by
  have hx := abs_le.mp hx
  have hx' := abs_le.mp hx'
  have hW : Rep64 ((x' : ℚ) - x) := by
    rw [← Int.cast_sub]; exact rep64_intCast _ (abs_le.mpr ⟨by omega, by omega⟩)
  have hW1 : (1 : ℚ) ≤ x' - x := by exact_mod_cast (by omega : (1 : Int) ≤ x' - x)
  have hW0 := zero_le_one.trans hW1
  obtain ⟨hd, hp, hs⟩ := seg_bounds h1 h2 hy hy'
  -- one lemma per rounding, innermost first; `δ` is the error so far
  have eD := fl64_err_num (δ := 1 / 2 ^ 44) hd (by norm_num)
  have eP := fl64_mul_close (δ := 1 / 2 ^ 41) hp (ratioQ_close hW hW1 h1 h2)
    (abs_fl64_le_two_pow 8 hd) eD (div_nonneg (sub_nonneg.mpr h1) hW0)
    (by linarith only [div_le_one_of_le₀ (sub_le_sub_right h2 _) hW0])
  have eS := fl64_add_close (a' := y) (δ := 1 / 2 ^ 40) hs (A := 0) (by simp) eP (by norm_num)
  refine fl32_eq_of_near hr (le_trans (by norm_num) hlo) (eS.trans_eq' (by rw [hv]) |>.trans ?_)
  rw [show pow2 (-30) = 1 / 2 ^ 30 from pow2_neg_natCast 30]
  linarith only [hlo]

theorem ratio_fin {t x x' : ℚ} (n : Nat) (hx : Rep64 x) (hx' : Rep64 x') (h1 : x ≤ t) (h2 : t < x')
    (hb : |x| ≤ 2 ^ n) (hb' : |x'| ≤ 2 ^ n) (hn : n ≤ 1022 := by norm_num) :
    ratio (fin t) (fin x) (fin x') = fin (ratioQ t x x') := by
  obtain ⟨a0, a1⟩ := fl64_ramp_mem_unit h1 h2.le
  obtain ⟨b0, b1⟩ := ratio100_mem h1 h2.le
  unfold ratio100 at b0 b1
  unfold ratio
  rw [ramp_fin n hx hx' h1 h2 hb hb' hn, ofInt_100, mul_fin_fin,
    ofRat_fin_of_abs_le_two_pow 7 (by rw [abs_of_nonneg (by positivity)]; linarith),
    div_fin_fin _ (by norm_num),
    ofRat_fin_of_abs_le_two_pow 0 (by rw [abs_of_nonneg (by positivity)]; linarith)]
  rfl

theorem seg_eq {t : ℚ} {x x' : Int} {y y' : ℚ} (hx : |x| ≤ 2 ^ 50) (hx' : |x'| ≤ 2 ^ 50)
    (h1 : (x : ℚ) ≤ t) (h2 : t < x') (hy : SpeedOK y) (hy' : SpeedOK y') :
    toF32 (fin y + ratio (fin t) (fin (x : ℚ)) (fin (x' : ℚ)) * (fin y' - fin y))
      = fin (segQ t x x' y y') := by
  obtain ⟨hd, hp, hs⟩ := seg_bounds h1 h2.le hy hy'
  rw [ratio_fin 50 (rep64_intCast x (hx.trans (by norm_num)))
      (rep64_intCast x' (hx'.trans (by norm_num))) h1 h2 (by exact_mod_cast hx)
      (by exact_mod_cast hx'),
    sub_fin_fin, ofRat_fin_of_abs_le_two_pow 8 hd, mul_fin_fin,
    ofRat_fin_of_abs_le_two_pow 8 hp, add_fin_fin,
    ofRat_fin_of_abs_le_two_pow 9 hs,
    toF32_fin_of_abs_le (abs_le_pow2_of_le 9 (abs_fl64_le_two_pow 9 hs) (by norm_num))]
  rfl

def toSteps (ks : List (Int × ℚ)) : List (Int × F64) := ks.map fun p => (p.1, fin p.2)

theorem toSteps_cons (p : Int × ℚ) (ks : List (Int × ℚ)) :
    toSteps (p :: ks) = (p.1, fin p.2) :: toSteps ks := rfl

/-- `CalculateInterpolatedCurveValue` on rationals, for a finite input. -/
def curveQ : List (Int × ℚ) → ℚ → ℚ
  | [], _ => 0
  | [(_, y)], _ => y
  | (x, y) :: (x', y') :: rest, q =>
    if q ≤ x then y else if q < x' then segQ q x x' y y' else curveQ ((x', y') :: rest) q

theorem curveQ_cons₂ (x : Int) (y : ℚ) (x' : Int) (y' : ℚ) (rest : List (Int × ℚ)) (q : ℚ) :
    curveQ ((x, y) :: (x', y') :: rest) q =
      if q ≤ x then y else if q < x' then segQ q x x' y y' else curveQ ((x', y') :: rest) q := rfl

theorem curveQ_of_le (x : Int) (y : ℚ) (rest : List (Int × ℚ)) {q : ℚ} (h : q ≤ x) :
    curveQ ((x, y) :: rest) q = y := by
  cases rest with
  | nil => rfl
  | cons p' rest => rw [curveQ_cons₂, if_pos h]

/-- speed of the largest step. -/
def lastY : List (Int × ℚ) → ℚ
  | [] => 0
  | [(_, y)] => y
  | _ :: p :: rest => lastY (p :: rest)

/-- keys strictly increasing and bounded, speeds binary64 values in `[0, 255]`. The bound `2^50` is a
    choice: up to `2^52` a key and the difference of two keys are exact in float64. -/
def StepsOK (ks : List (Int × ℚ)) : Prop :=
  (∀ p ∈ ks, |p.1| ≤ 2 ^ 50 ∧ SpeedOK p.2) ∧ ks.Pairwise (fun a b => a.1 < b.1)

/-- speeds non-decreasing along the keys, each a binary32 value. -/
def StepsMono (ks : List (Int × ℚ)) : Prop :=
  ks.Pairwise (fun a b => a.2 ≤ b.2) ∧ ∀ p ∈ ks, Rep32 p.2

theorem StepsOK.tail {p : Int × ℚ} {ks : List (Int × ℚ)} (h : StepsOK (p :: ks)) : StepsOK ks :=
  ⟨fun q hq => h.1 q (List.mem_cons_of_mem _ hq), (List.pairwise_cons.mp h.2).2⟩

theorem StepsOK.head {p : Int × ℚ} {ks : List (Int × ℚ)} (h : StepsOK (p :: ks)) :
    |p.1| ≤ 2 ^ 50 ∧ SpeedOK p.2 := h.1 p List.mem_cons_self

theorem StepsOK.head_lt {p q : Int × ℚ} {ks : List (Int × ℚ)} (h : StepsOK (p :: ks))
    (hq : q ∈ ks) : p.1 < q.1 := (List.pairwise_cons.mp h.2).1 q hq

theorem StepsOK.lt {p p' : Int × ℚ} {ks : List (Int × ℚ)} (h : StepsOK (p :: p' :: ks)) :
    p.1 < p'.1 := h.head_lt List.mem_cons_self

theorem StepsOK.of_flat {ks : List (Int × ℚ)}
    (hb : ∀ p ∈ ks, |p.1| ≤ 2 ^ 50 ∧ Rep64 p.2 ∧ 0 ≤ p.2 ∧ p.2 ≤ 255)
    (hkeys : ks.Pairwise (fun a b => a.1 < b.1)) : StepsOK ks :=
  ⟨fun p hp => let ⟨k, r, h0, h1⟩ := hb p hp; ⟨k, r, h0, h1⟩, hkeys⟩

theorem StepsMono.tail {p : Int × ℚ} {ks : List (Int × ℚ)} (h : StepsMono (p :: ks)) :
    StepsMono ks :=
  ⟨(List.pairwise_cons.mp h.1).2, fun q hq => h.2 q (List.mem_cons_of_mem _ hq)⟩

theorem StepsMono.head {p : Int × ℚ} {ks : List (Int × ℚ)} (h : StepsMono (p :: ks)) :
    Rep32 p.2 := h.2 p List.mem_cons_self

theorem StepsMono.le {p p' : Int × ℚ} {ks : List (Int × ℚ)} (h : StepsMono (p :: p' :: ks)) :
    p.2 ≤ p'.2 := (List.pairwise_cons.mp h.1).1 p' List.mem_cons_self

theorem curveQ_range {ks : List (Int × ℚ)} (hok : StepsOK ks) (q : ℚ) :
    0 ≤ curveQ ks q ∧ curveQ ks q ≤ 255 := by
  induction ks with
  | nil => exact ⟨le_rfl, by norm_num [curveQ]⟩
  | cons p rest ih =>
    cases rest with
    | nil => exact ⟨hok.head.2.nonneg, hok.head.2.le255⟩
    | cons p' rest =>
      rw [curveQ_cons₂]
      split_ifs with h h'
      · exact ⟨hok.head.2.nonneg, hok.head.2.le255⟩
      · exact segQ_range (not_le.mp h).le h'.le hok.head.2 hok.tail.head.2
      · exact ih hok.tail

theorem curveQ_skip {x x' : Int} (y y' : ℚ) (l : List (Int × ℚ)) {q : ℚ} (hlt : x < x')
    (hq : (x' : ℚ) ≤ q) : curveQ ((x, y) :: (x', y') :: l) q = curveQ ((x', y') :: l) q := by
  have : (x : ℚ) < x' := by exact_mod_cast hlt
  rw [curveQ_cons₂, if_neg (by linarith), if_neg (by linarith)]

theorem curveQ_above {ks : List (Int × ℚ)} (hok : StepsOK ks) {q : ℚ}
    (h : ∀ p ∈ ks, (p.1 : ℚ) ≤ q) : curveQ ks q = lastY ks := by
  induction ks with
  | nil => rfl
  | cons p rest ih =>
    cases rest with
    | nil => rfl
    | cons p' rest =>
      rw [curveQ_skip _ _ _ hok.lt (h p' (by simp))]
      exact ih hok.tail (fun p hp => h p (List.mem_cons_of_mem _ hp))

theorem curveQ_far {ks : List (Int × ℚ)} (hok : StepsOK ks) {q : ℚ} (hq : 2 ^ 50 ≤ q) :
    curveQ ks q = lastY ks :=
  curveQ_above hok fun p hp => le_trans (by exact_mod_cast (le_abs_self p.1).trans (hok.1 p hp).1) hq

theorem curveQ_mono {ks : List (Int × ℚ)} (hok : StepsOK ks) (hm : StepsMono ks) {q q' : ℚ}
    (hqq : q ≤ q') : curveQ ks q ≤ curveQ ks q' := by
  induction ks generalizing q q' with
  | nil => exact le_rfl
  | cons p rest ih =>
    cases rest with
    | nil => exact le_rfl
    | cons p' rest =>
    obtain ⟨x, y⟩ := p
    obtain ⟨x', y'⟩ := p'
    have hlt : (x : ℚ) < x' := by exact_mod_cast hok.lt
    have hyy : y ≤ y' := hm.le
    -- inside the segment the value is between `y` and `y'`; the rest of the curve is `y'` at `x'`,
    -- hence at least `y'` from there on
    have hseg := fun {t : ℚ} (h : ¬ t ≤ x) (h' : t < x') =>
      segQ_between (not_le.mp h).le h'.le hok.head.2.nonneg hyy hm.head hm.tail.head
    have htl := fun {t : ℚ} (h : ¬ t < x') =>
      (curveQ_of_le x' y' rest le_rfl).ge.trans (ih hok.tail hm.tail (not_lt.mp h))
    rw [curveQ_cons₂, curveQ_cons₂]
    refine ite_le_ite_of_le (hp := hqq.trans) (hu := fun _ => le_rfl) (huv := fun _ hb => ?_)
      (hv := fun ha => ?_)
    · split_ifs with h'
      · exact (hseg hb h').1
      · exact hyy.trans (htl h')
    · exact ite_le_ite_of_le (hp := hqq.trans_lt) (hu := fun _ => segQ_mono hlt.le hyy hqq)
        (huv := fun ha' hb' => (hseg ha ha').2.trans (htl hb'))
        (hv := fun _ => ih hok.tail hm.tail hqq)

/-- the curve on all of float64: first speed at `-Inf`, last speed at `+Inf`. -/
def curveF (ks : List (Int × ℚ)) : F64 → ℚ
  | fin q => curveQ ks q
  | inf true => (ks.head?.map (·.2)).getD 0
  | inf false => lastY ks
  | nan => 0

theorem curveQ_between {ks : List (Int × ℚ)} (hok : StepsOK ks) (hm : StepsMono ks) (q : ℚ) :
    curveF ks (inf true) ≤ curveQ ks q ∧ curveQ ks q ≤ curveF ks (inf false) := by
  refine ⟨?_, (curveQ_mono hok hm (le_max_left q (2 ^ 50))).trans
    (curveQ_far hok (le_max_right q (2 ^ 50))).le⟩
  cases ks with
  | nil => exact le_rfl
  | cons p rest =>
    exact (curveQ_of_le p.1 p.2 rest (min_le_right q p.1)).ge.trans
      (curveQ_mono hok hm (min_le_left q p.1))

/-- The flag `i == 0` only matters for an input below the first key, and from the second iteration
    on the input is not below the current key (`hinv`). -/
theorem interpLoop_curveF (first : Bool) (x : Int) (y : ℚ) (rest : List (Int × ℚ))
    (hok : StepsOK ((x, y) :: rest)) {t : F64} (ht : t ≠ nan)
    (hinv : first = true ∨ le (fin (x : ℚ)) t = true) :
    interpLoop first (toSteps ((x, y) :: rest)) t = fin (curveF ((x, y) :: rest) t) := by
  induction rest generalizing first x y with
  | nil =>
    match t, ht with
    | fin _, _ | inf true, _ | inf false, _ => rfl
  | cons p' rest ih =>
    obtain ⟨x', y'⟩ := p'
    have hlt : (x : ℚ) < x' := by exact_mod_cast hok.lt
    rw [toSteps_cons, toSteps_cons, interpLoop_cons_cons,
      ofInt_small (hok.head.1.trans (by norm_num)),
      ofInt_small (hok.tail.head.1.trans (by norm_num))]
    match t, ht, hinv with
    | inf true, _, hinv =>
      -- `-Inf` is not above the key, so this is the iteration `i == 0`, which returns at once
      obtain rfl : first = true := hinv.resolve_right (by simp [le])
      exact if_pos rfl
    | inf false, _, _ =>
      rw [if_neg (by simp [le]), if_pos (by rfl), ← toSteps_cons (x', y'),
        ih false x' y' hok.tail (.inr rfl)]
      rfl
    | fin q, _, hinv =>
      show _ = fin (curveQ _ q)
      rw [curveQ_cons₂]
      rcases le_or_gt q x with h | h
      · rw [if_pos h]
        cases first with
        | true => exact if_pos (by simpa using h)
        | false =>
          -- not the first iteration: `x ≤ q` by the invariant, so `q = x`, below `x'`, and the
          -- `==` branch returns `y`
          obtain rfl : q = x := h.antisymm (le_fin_fin.mp (hinv.resolve_left (by simp)))
          rw [if_neg (by simp), if_neg (by simpa using hlt), if_pos (by simp)]
      · rw [if_neg h.not_ge, if_neg (by simp [h.not_ge])]
        rcases lt_or_ge q x' with h' | h'
        · rw [if_pos h', if_neg (by simpa using h'), if_neg (by simpa using h.ne')]
          exact seg_eq hok.head.1 hok.tail.head.1 h.le h' hok.head.2 hok.tail.head.2
        · rw [if_neg h'.not_gt, if_pos (by simpa using h')]
          exact ih false x' y' hok.tail (.inr (le_fin_fin.mpr h'))

theorem interpLoop_eq {x : Int} {y : ℚ} {rest : List (Int × ℚ)} (hok : StepsOK ((x, y) :: rest))
    {t : F64} (ht : t ≠ nan) :
    interpLoop true (toSteps ((x, y) :: rest)) t = fin (curveF ((x, y) :: rest) t) :=
  interpLoop_curveF true x y rest hok ht (.inl rfl)

theorem curveF_mono {ks : List (Int × ℚ)} (hok : StepsOK ks) (hm : StepsMono ks) {t t' : F64}
    (h : le t t' = true) : curveF ks t ≤ curveF ks t' :=
  mono_of_fin (curveF ks) (fun q => (curveQ_between hok hm q).1)
    (fun q => (curveQ_between hok hm q).2) (let b := curveQ_between hok hm 0; b.1.trans b.2)
    (fun _ _ => curveQ_mono hok hm) h

theorem curveF_range {ks : List (Int × ℚ)} (hok : StepsOK ks) {t : F64} (ht : t ≠ nan) :
    0 ≤ curveF ks t ∧ curveF ks t ≤ 255 := by
  match t, ht with
  | fin q, _ => exact curveQ_range hok q
  | inf true, _ =>
    cases ks with
    | nil => exact ⟨le_rfl, by norm_num [curveF]⟩
    | cons p rest => exact ⟨hok.head.2.nonneg, hok.head.2.le255⟩
  | inf false, _ =>
    show 0 ≤ lastY _ ∧ lastY _ ≤ 255
    rw [← curveQ_far hok le_rfl]
    exact curveQ_range hok (2 ^ 50)

theorem curveQ_append (l1 : List (Int × ℚ)) (p : Int × ℚ) (l2 : List (Int × ℚ))
    (hok : StepsOK (l1 ++ p :: l2)) {q : ℚ} (hq : (p.1 : ℚ) ≤ q) :
    curveQ (l1 ++ p :: l2) q = curveQ (p :: l2) q := by
  induction l1 with
  | nil => rfl
  | cons a l1 ih =>
    rw [← ih hok.tail]
    have hap : a.1 < p.1 := hok.head_lt (by simp)
    cases l1 with
    | nil => exact curveQ_skip _ _ _ hap hq
    | cons b l1 =>
      have hbp : b.1 < p.1 := hok.tail.head_lt (by simp)
      exact curveQ_skip _ _ _ hok.lt (le_trans (by exact_mod_cast hbp.le) hq)

theorem curveQ_at_key {ks : List (Int × ℚ)} (hok : StepsOK ks) {k : Int} {v : ℚ}
    (hmem : (k, v) ∈ ks) : curveQ ks (k : ℚ) = v := by
  obtain ⟨l1, l2, rfl⟩ := List.append_of_mem hmem
  rw [curveQ_append l1 _ l2 hok le_rfl, curveQ_of_le _ _ _ le_rfl]

theorem curveQ_identity {a b k : Int} (hok : StepsOK [(a, (a : ℚ)), (b, (b : ℚ))]) (h1 : a ≤ k)
    (h2 : k ≤ b) : curveQ [(a, (a : ℚ)), (b, (b : ℚ))] k = k := by
  rcases h1.eq_or_lt with rfl | h1
  · exact curveQ_at_key hok (by simp)
  rcases h2.eq_or_lt with rfl | h2
  · exact curveQ_at_key hok (by simp)
  have hya : SpeedOK (a : ℚ) := hok.head.2
  have hyb : SpeedOK (b : ℚ) := hok.tail.head.2
  have ha : 0 ≤ a := by exact_mod_cast hya.nonneg
  have hb : b ≤ 255 := by exact_mod_cast hyb.le255
  have hne : (b : ℚ) - a ≠ 0 := by exact_mod_cast (by omega : b - a ≠ 0)
  rw [curveQ_cons₂, if_neg (by exact_mod_cast h1.not_ge), if_pos (by exact_mod_cast h2)]
  exact segQ_exact hok.head.1 hok.tail.head.1 hok.lt (by exact_mod_cast h1.le)
    (by exact_mod_cast h2.le) hya hyb
    (by rw [div_mul_cancel₀ _ hne, add_sub_cancel]) (byte_rep32 (by omega) (by omega))
    (le_trans (by norm_num) (by exact_mod_cast (by omega : 1 ≤ k) : (1 : ℚ) ≤ k))

theorem curveQ_seg (l1 l2 : List (Int × ℚ)) (k k' : Int) (v v' : ℚ)
    (hok : StepsOK (l1 ++ (k, v) :: (k', v') :: l2)) {q : ℚ} (hq1 : (k : ℚ) ≤ q) (hq2 : q < k') :
    curveQ (l1 ++ (k, v) :: (k', v') :: l2) q = if q = k then v else segQ q k k' v v' := by
  rw [curveQ_append l1 _ _ hok hq1, curveQ_cons₂, if_pos hq2]
  exact if_congr ⟨hq1.antisymm', le_of_eq⟩ rfl rfl

theorem linSteps_eq (indef : Int) (avg : F64) (p : Int × ℚ) (rest : List (Int × ℚ)) :
    linSteps indef avg (toSteps (p :: rest))
      = .ok (toInt indef (round (interpLoop true (toSteps (p :: rest)) (avg / ofInt 1000)))) := rfl

theorem div1000_mono {a b : F64} (h : le a b = true) :
    le (a / ofInt 1000) (b / ofInt 1000) = true := by
  rw [ofInt_1000]; exact div_fin_mono (by norm_num) h

theorem div1000_exact {k : Int} (hk : |k| ≤ 2 ^ 50) :
    fin ((k * 1000 : Int) : ℚ) / ofInt 1000 = fin (k : ℚ) := by
  rw [ofInt_1000, div_fin_fin _ (by norm_num), Int.cast_mul, Int.cast_ofNat,
    mul_div_cancel_right₀ _ (by norm_num)]
  exact ofRat_intCast (hk.trans (by norm_num))

theorem linSteps_of_value (indef : Int) {avg : F64} {p : Int × ℚ} {rest : List (Int × ℚ)} {z : ℚ}
    (hz : interpLoop true (toSteps (p :: rest)) (avg / ofInt 1000) = fin z) (h0 : 0 ≤ z)
    (h1 : z ≤ 255) :
    linSteps indef avg (toSteps (p :: rest)) = .ok (roundRat z) ∧ 0 ≤ roundRat z ∧
      roundRat z ≤ 255 := by
  rw [linSteps_eq, hz]
  have := toInt_round_of_bounds indef (q := z) (lo := 0) (hi := 255) (by simpa using h0)
    (by simpa using h1) (by norm_num) (by norm_num)
  exact ⟨by rw [this.1], this.2.1, this.2.2⟩

theorem linSteps_val (indef : Int) {ks : List (Int × ℚ)} (hok : StepsOK ks) (hne : ks ≠ [])
    {avg : F64} (h : avg ≠ nan) :
    linSteps indef avg (toSteps ks) = .ok (roundRat (curveF ks (avg / ofInt 1000))) ∧
    0 ≤ roundRat (curveF ks (avg / ofInt 1000)) ∧ roundRat (curveF ks (avg / ofInt 1000)) ≤ 255 := by
  have ht := ne_nan_of_le_left (div1000_mono (F64.le_refl h))
  have hr := curveF_range hok ht
  match ks, hne, hok with
  | (x, y) :: rest, _, hok =>
    exact linSteps_of_value indef (interpLoop_eq hok ht) hr.1 hr.2

theorem linSteps_range (indef : Int) {ks : List (Int × ℚ)} (hok : StepsOK ks) (hne : ks ≠ [])
    {avg : F64} (h : avg ≠ nan) :
    ∃ v, linSteps indef avg (toSteps ks) = .ok v ∧ 0 ≤ v ∧ v ≤ 255 :=
  ⟨_, linSteps_val indef hok hne h⟩

theorem linSteps_mono (indef : Int) {ks : List (Int × ℚ)} (hok : StepsOK ks) (hm : StepsMono ks)
    (hne : ks ≠ []) {a b : F64} (h : le a b = true) :
    ∃ v w, linSteps indef a (toSteps ks) = .ok v ∧ linSteps indef b (toSteps ks) = .ok w ∧ v ≤ w := by
  exact ⟨_, _, (linSteps_val indef hok hne (ne_nan_of_le_left h)).1,
    (linSteps_val indef hok hne (ne_nan_of_le_right h)).1,
    roundRat_mono (curveF_mono hok hm (div1000_mono h))⟩

theorem linSteps_fin (indef : Int) {ks : List (Int × ℚ)} (hok : StepsOK ks) (hne : ks ≠ [])
    {avg : F64} {q : ℚ} (hq : avg / ofInt 1000 = fin q) :
    linSteps indef avg (toSteps ks) = .ok (roundRat (curveQ ks q)) := by
  have := (linSteps_val indef hok hne (avg := avg) (by rintro rfl; simp at hq)).1
  rwa [hq] at this

end Fan2go
