/-
  The closed loop of poll, curve evaluation and `UpdateFanSpeed` (`Cfg.closedLoop`) of an accepted
  configuration never panics: neither a cycle nor curve evaluation does, and both hand the next tick
  what they were given (`Inv`; the shape of the table).
  Every fault is a value of the device fields / of the sensor table, so the statement quantifies over
  them; no PID dynamics are unfolded (`LoopSt.cycle` is opaque here).
  `Tick` and `closedLoop` are vocabulary of the specification (C09 states its closed-loop results
  and examples with them), defined here because they need both the controller and the curve table.
-/
import Fan2go.Proofs.ControllerInv
import Fan2go.Proofs.ConfigEval

namespace Fan2go
namespace Cfg

/-- what the outside world decides in one tick of the loop of one fan: the complete device state
    (registers and ALL fault switches), the complete sensor table the curves see (averages and
    `GetValue` outcomes), the clock -/
structure Tick where
  dev : Dev
  sensors : SensorTable
  now : Int

/-- the closed loop of one fan regulated by the curve `id`: per tick the environment sets the device,
    the RPM monitor polls, the curve is evaluated on the current table (whose `Value`s / PID memories
    evolve), `UpdateFanSpeed` runs. Regulation ends at the first cycle that does not return `ok`.
    Yields the outcome of every cycle that ran. -/
def closedLoop (indef : Int) (fuel : Nat) (id : String) : World → CurveTable → List Tick → List (Res Unit)
  | _, _, [] => []
  | w, T, t :: ts =>
    let w1 := measureRpm indef { w with dev := t.dev }
    let ev := evalCurve indef t.sensors t.now fuel T id
    let out := updateFanSpeed indef w1 ev.2 t.now
    match out.2.1 with
    | .ok u => .ok u :: closedLoop indef fuel id out.1 ev.1 ts
    | r => [r]

theorem closedLoop_no_panic (c : Configuration) (permOk : Bool)
    (h : validateConfig c permOk = .ok ()) (indef : Int) (cc : CurveConfig) (hcc : cc ∈ c.curves)
    (ts : List Tick) (hs : ∀ t ∈ ts, SensorsPresent c t.sensors) :
    ∀ (w : World) (T : CurveTable), Inv w → cfgOf T = cfgOf (toCurveTable c) →
      ∀ r ∈ closedLoop indef (c.curves.length + 1) cc.id w T ts, ∀ s, r ≠ .panic s := by
  induction ts with
  | nil => intro w T _ _ r hr; cases hr
  | cons t ts ih =>
    intro w T hinv hT r hr s
    have hinv1 : Inv (measureRpm indef { w with dev := t.dev }) :=
      (step_cases indef _ .poll).inv ((step_cases indef w (.env t.dev)).inv hinv)
    obtain ⟨hT', hnp⟩ := eval_no_panic_of_accepted c permOk h indef t.sensors t.now
      (hs t List.mem_cons_self) T hT cc hcc
    rw [closedLoop] at hr
    split at hr
    · rcases List.mem_cons.mp hr with rfl | hr
      · nofun
      · exact ih (fun t' ht' => hs t' (List.mem_cons_of_mem _ ht')) _ _
          ((step_cases indef _ (.cycle _ t.now)).inv hinv1) hT' r hr s
    · rw [List.mem_singleton.1 hr]
      exact ufs_no_panic hinv1.distinct_ne indef _ t.now hnp s

end Cfg
end Fan2go
