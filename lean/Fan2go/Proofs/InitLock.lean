/-
  Proofs about `Model/InitLock.lean`: the mutual-exclusion invariant, for any number of processes and
  any program shapes, and the bracket lemma `lock :: mid ++ [unlock]` for unrolled loops.
-/
import Fan2go.Model.InitLock
namespace Fan2go.InitLock

theorem heldAt_succ (prog : List Instr) (pc : Nat) (i : Instr) (h : prog[pc]? = some i) :
    heldAt prog (pc + 1) = holdUpd (heldAt prog pc) i := by
  simp [heldAt, List.take_add_one, h, List.foldl_append]

theorem covered_at {prog : List Instr} (hc : covered prog = true) {pc : Nat} (hpc : pc ≤ prog.length) :
    (analysingAt prog pc = true → heldAt prog pc = true) ∧
    (prog[pc]? = some Instr.unlock → heldAt prog pc = true) := by
  have := (List.all_eq_true.mp hc) pc (List.mem_range.mpr (by omega))
  constructor <;> intro h <;> simp [h] at this
  · exact this.1
  · exact this.2

theorem covered_analysing {prog : List Instr} (hc : covered prog = true) (pc : Nat)
    (ha : analysingAt prog pc = true) : heldAt prog pc = true :=
  (covered_at hc (Nat.le_of_not_lt fun hn => by
    simp [analysingAt, unfinished, List.drop_eq_nil_of_le (Nat.le_of_lt hn)] at ha)).1 ha

theorem covered_unlock {prog : List Instr} (hc : covered prog = true) (pc : Nat)
    (hu : prog[pc]? = some Instr.unlock) : heldAt prog pc = true :=
  (covered_at hc (Nat.le_of_lt (List.getElem?_eq_some_iff.mp hu).1)).2 hu

/-- a process that (by its program text) holds the mutex finds it locked, and is the only such process -/
def Inv {ι : Type} (progs : ι → List Instr) (s : State ι) : Prop :=
  ∀ p, heldAt (progs p) (s.pc p) = true →
    s.locked = true ∧ ∀ q, heldAt (progs q) (s.pc q) = true → q = p

theorem Inv.init {ι : Type} (progs : ι → List Instr) : Inv progs (State.init : State ι) := by
  intro p h
  simp [State.init, heldAt] at h

theorem bump_self {ι : Type} [DecidableEq ι] (s : State ι) (p : ι) : bump s p p = s.pc p + 1 := by
  simp [bump]

theorem bump_other {ι : Type} [DecidableEq ι] (s : State ι) (p q : ι) (h : q ≠ p) : bump s p q = s.pc q := by
  simp [bump, h]

theorem step1_cases {ι : Type} [DecidableEq ι] {progs : ι → List Instr} {s s' : State ι} {p : ι}
    (hs : step1 progs s p = some s') :
    ∃ i, (progs p)[s.pc p]? = some i ∧ s'.pc = bump s p ∧
      ((i = .lock ∧ s.locked = false ∧ s'.locked = true) ∨
       (i = .unlock ∧ s.locked = true ∧ s'.locked = false) ∨
       (i.isMutexOp = false ∧ s'.locked = s.locked)) := by
  unfold step1 at hs
  split at hs
  next => cases hs
  next hi =>
    cases hl : s.locked <;> simp [hl] at hs
    subst hs
    exact ⟨.lock, hi, rfl, .inl ⟨rfl, rfl, rfl⟩⟩
  next hi =>
    cases hl : s.locked <;> simp [hl] at hs
    subst hs
    exact ⟨.unlock, hi, rfl, .inr (.inl ⟨rfl, rfl, rfl⟩)⟩
  next i hlock hunlock hi =>
    cases hs
    refine ⟨i, hi, rfl, .inr (.inr ⟨?_, rfl⟩)⟩
    cases i <;> simp_all [Instr.isMutexOp]

theorem holdUpd_of_not_mutex {i : Instr} (h : i.isMutexOp = false) (b : Bool) : holdUpd b i = b := by
  cases i <;> first | rfl | cases h

theorem Inv.step {ι : Type} [DecidableEq ι] {progs : ι → List Instr}
    (hc : ∀ p, covered (progs p) = true) {s s' : State ι} {p : ι}
    (hinv : Inv progs s) (hs : step1 progs s p = some s') : Inv progs s' := by
  obtain ⟨i, hi, hpc, hcase⟩ := step1_cases hs
  have hself : heldAt (progs p) (s'.pc p) = holdUpd (heldAt (progs p) (s.pc p)) i := by
    rw [hpc, bump_self, heldAt_succ _ _ _ hi]
  have hother : ∀ q, q ≠ p → s'.pc q = s.pc q := fun q hq => by rw [hpc, bump_other s p q hq]
  rcases hcase with ⟨rfl, hl, hl'⟩ | ⟨rfl, -, -⟩ | ⟨hi', hl'⟩
  · -- lock: the mutex was free, so nobody held it; afterwards only `p` holds
    have only : ∀ q, heldAt (progs q) (s'.pc q) = true → q = p := by
      intro q hq
      apply Decidable.byContradiction
      intro hne
      rw [hother q hne] at hq
      exact Bool.false_ne_true (hl.symm.trans (hinv q hq).1)
    intro r hr
    obtain rfl := only r hr
    exact ⟨hl', only⟩
  · -- unlock: `p` was the one holder, and afterwards nobody holds
    have huniq := (hinv p (covered_unlock (hc p) _ hi)).2
    intro r hr
    exfalso
    by_cases hrp : r = p
    · subst hrp
      rw [hself] at hr
      cases hr
    · rw [hother r hrp] at hr
      exact hrp (huniq r hr)
  · have same : ∀ q, heldAt (progs q) (s'.pc q) = heldAt (progs q) (s.pc q) := by
      intro q
      by_cases hqp : q = p
      · subst hqp
        rw [hself, holdUpd_of_not_mutex hi']
      · rw [hother q hqp]
    intro r hr
    rw [same] at hr
    obtain ⟨h1, h2⟩ := hinv r hr
    exact ⟨hl'.trans h1, fun q hq => h2 q (same q ▸ hq)⟩

theorem Inv.of_exec {ι : Type} [DecidableEq ι] (progs : ι → List Instr)
    (hc : ∀ p, covered (progs p) = true) (sched : List ι) :
    ∀ s s' : State ι, Inv progs s → exec progs s sched = some s' → Inv progs s' := by
  induction sched with
  | nil => intro s s' hinv he; cases he; exact hinv
  | cons p ps ih =>
    intro s s' hinv he
    unfold exec at he
    cases h1 : step1 progs s p with
    | none => simp [h1] at he
    | some s1 => exact ih s1 s' (Inv.step hc hinv h1) (by simpa only [h1] using he)

theorem Inv.of_reachable {ι : Type} [DecidableEq ι] (progs : ι → List Instr)
    (hc : ∀ p, covered (progs p) = true) (s : State ι) (hr : Reachable progs s) : Inv progs s := by
  obtain ⟨sched, he⟩ := hr
  exact Inv.of_exec progs hc sched _ _ (Inv.init progs) he

theorem exclusion {ι : Type} [DecidableEq ι] (progs : ι → List Instr)
    (hc : ∀ p, covered (progs p) = true) (s : State ι) (hr : Reachable progs s) (p q : ι) (hne : p ≠ q) :
    ¬ (analysing progs s p = true ∧ analysing progs s q = true) := by
  rintro ⟨hp, hq⟩
  have hinv := Inv.of_reachable progs hc s hr
  have h1 := covered_analysing (hc p) _ hp
  have h2 := covered_analysing (hc q) _ hq
  exact hne ((hinv q h2).2 p h1)

theorem foldl_noMutex (xs : List Instr) (h : xs.all (fun i => !i.isMutexOp) = true) (b : Bool) :
    xs.foldl holdUpd b = b := by
  induction xs with
  | nil => rfl
  | cons x xs ih =>
    simp only [List.all_cons, Bool.and_eq_true] at h
    simp only [List.foldl_cons, holdUpd_of_not_mutex (by simpa using h.1)]
    exact ih h.2

theorem bracket_held (mid : List Instr) (h : mid.all (fun i => !i.isMutexOp) = true) (pc : Nat)
    (h1 : 1 ≤ pc) (h2 : pc ≤ mid.length + 1) :
    heldAt (Instr.lock :: (mid ++ [Instr.unlock])) pc = true := by
  obtain ⟨n, rfl⟩ : ∃ n, pc = n + 1 := ⟨pc - 1, by omega⟩
  simp only [heldAt, List.take_succ_cons, List.foldl_cons, holdUpd,
    List.take_append_of_le_length (show n ≤ mid.length by omega)]
  exact foldl_noMutex _ (List.all_eq_true.mpr fun x hx => List.all_eq_true.mp h x (List.mem_of_mem_take hx)) true

theorem bracket_covered (mid : List Instr) (h : mid.all (fun i => !i.isMutexOp) = true) :
    covered (Instr.lock :: (mid ++ [Instr.unlock])) = true := by
  unfold covered
  rw [List.all_eq_true]
  intro pc hpc
  have hlen := List.mem_range.mp hpc
  simp only [List.length_cons, List.length_append, List.length_nil] at hlen
  obtain rfl | hin | rfl : pc = 0 ∨ (1 ≤ pc ∧ pc ≤ mid.length + 1) ∨ pc = mid.length + 2 := by omega
  · simp [analysingAt, started]
  · simp [bracket_held mid h pc hin.1 hin.2]
  · have hd : List.drop (mid.length + 2) (Instr.lock :: (mid ++ [Instr.unlock])) = [] :=
      List.drop_eq_nil_of_le (by simp)
    simp [analysingAt, unfinished, hd]

/-- the caller names the three parts (what precedes the loop, one iteration, the deferred calls) and
    evaluates the hypotheses -/
theorem programOfN_of_parts (k : Nat) {seq : List String} {pre body post : List Instr}
    (h1 : straight (seq.takeWhile (· != "loop{")) = pre)
    (h2 : straight (seq.dropWhile (· != "loop{")) = body) (h3 : deferred seq = post) :
    programOfN k seq = pre ++ (List.replicate k body).flatten ++ post := by
  rw [programOfN, h1, h2, h3]

end Fan2go.InitLock
