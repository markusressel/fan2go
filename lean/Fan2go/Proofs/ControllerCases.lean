/-
  One control cycle of the model of `controller.go`, without any arithmetic (core Lean only; the
  range of the requested value is in ControllerInv.lean): `calculateTargetPwm`, `setPwm` and
  `UpdateFanSpeed` (`ufs_`) as equations over named parts, all outcomes of `calculateTargetPwm`
  backwards (`CalcCase`), what each can change, and where a panic or an error of one cycle can come
  from. Nothing here unfolds a control loop: `LoopSt.cycle` may return any `Int`.
-/
import Fan2go.Proofs.Util
import Fan2go.Proofs.Restore
namespace Fan2go
open F64

/-- the fan's limits (`getMin`, `getMax`) depend on these four fields only -/
structure FanSame (f f' : FanSt) : Prop where
  kind : f'.kind = f.kind
  neverStop : f'.neverStop = f.neverStop
  minP : f'.minP = f.minP
  maxP : f'.maxP = f.maxP

theorem FanSame.refl (f : FanSt) : FanSame f f := ⟨rfl, rfl, rfl, rfl⟩

theorem FanSame.trans {f g h : FanSt} (a : FanSame f g) (b : FanSame g h) : FanSame f h :=
  ⟨b.kind.trans a.kind, b.neverStop.trans a.neverStop, b.minP.trans a.minP, b.maxP.trans a.maxP⟩

theorem FanSame.getMin {f f' : FanSt} (h : FanSame f f') : f'.getMin = f.getMin := by
  unfold FanSt.getMin; rw [h.kind, h.neverStop, h.minP]

theorem FanSame.getMax {f f' : FanSt} (h : FanSame f f') : f'.getMax = f.getMax := by
  unfold FanSt.getMax; rw [h.kind, h.maxP]

theorem setRpmAvg_fanSame (indef : Int) (f : FanSt) (x : F64) : FanSame f (f.setRpmAvg indef x) := by
  unfold FanSt.setRpmAvg; split <;> exact ⟨rfl, rfl, rfl, rfl⟩

theorem getRpmAvg_setRpmAvg (indef : Int) (f : FanSt) (x : F64) :
    (f.setRpmAvg indef x).getRpmAvg = if f.kind = .hwmon then x else ofInt (toInt indef x) := by
  cases hk : f.kind <;> simp [FanSt.setRpmAvg, FanSt.getRpmAvg, hk]

theorem getMin_zero_of_not_hwmon (f : FanSt) (h : f.kind ≠ .hwmon) : f.getMin = 0 := by
  unfold FanSt.getMin; split
  · next hk => exact absurd hk h
  · rfl

theorem supports_congr {f f' : FanSt} (h : f'.kind = f.kind) (d : Dev) (x : Feature) :
    supports f' d x = supports f d x := by
  cases x <;> simp [supports, h]

theorem supports_rpmSensor (f : FanSt) (d : Dev) : supports f d .rpmSensor = d.hasRpm := rfl

theorem supports_pwmSensor_of_read {f : FanSt} {d : Dev} (h : d.pwmRead = .ok) :
    supports f d .pwmSensor = true := by
  unfold supports; cases f.kind <;> simp [h]

/-- only cmd fans claim a PWM reading they cannot take -/
theorem supports_pwmSensor_blind {f : FanSt} {d : Dev} (hk : f.kind ≠ .cmd) (h : d.pwmRead ≠ .ok) :
    supports f d .pwmSensor = false := by
  unfold supports; cases hf : f.kind <;> simp_all

theorem Inv.transfer {w w' : World} (h : Inv w)
    (hmin : w'.fan.getMin = w.fan.getMin) (hmax : w'.fan.getMax = w.fan.getMax)
    (hmap : w'.ctl.pwmMap = w.ctl.pwmMap) (hdist : w'.ctl.distinct = w.ctl.distinct)
    (hoff : w.ctl.offset ≤ w'.ctl.offset)
    (hfl : w'.fan.getMin + w'.ctl.offset ≤ w'.fan.getMax) : Inv w' where
  min_nonneg := hmin ▸ h.min_nonneg
  offset_nonneg := Int.le_trans h.offset_nonneg hoff
  floor_le_max := hfl
  max_le := hmax ▸ h.max_le
  map_some := by rw [hmap, hdist]; exact h.map_some

theorem Inv.of_same {w w' : World} (h : Inv w)
    (hfan : FanSame w.fan w'.fan)
    (hmap : w'.ctl.pwmMap = w.ctl.pwmMap) (hdist : w'.ctl.distinct = w.ctl.distinct)
    (hoff : w'.ctl.offset = w.ctl.offset) : Inv w' :=
  h.transfer hfan.getMin hfan.getMax hmap hdist (Int.le_of_eq hoff.symm)
    (by rw [hfan.getMin, hfan.getMax, hoff]; exact h.floor_le_max)

/-- The part of `Inv` that C05 depends on; it is preserved by every controller step because no step
    writes `pwmMap` or `pwmValuesWithDistinctTarget`. -/
def MapInv (c : Ctl) : Prop :=
  ∃ m, c.pwmMap = some m ∧ MapOk m ∧ c.distinct = (extractKeys m).toArray

theorem Inv.mapInv {w : World} (h : Inv w) : MapInv w.ctl := h.map_some

theorem MapInv.distinct_ne {c : Ctl} (h : MapInv c) : c.distinct.size ≠ 0 :=
  let ⟨m, _, hm, hd⟩ := h; hd ▸ extractKeys_toArray_size_ne m hm.1

theorem Inv.distinct_ne {w : World} (h : Inv w) : w.ctl.distinct.size ≠ 0 := h.mapInv.distinct_ne

theorem Inv.floor_nonneg {w : World} (h : Inv w) : 0 ≤ w.floor := by
  unfold World.floor; have := h.min_nonneg; have := h.offset_nonneg; omega

theorem Inv.min_le_floor {w : World} (h : Inv w) : w.fan.getMin ≤ w.floor := by
  unfold World.floor; have := h.offset_nonneg; omega

theorem World.floor_congr {w w' : World} (hm : w'.fan.getMin = w.fan.getMin)
    (ho : w'.ctl.offset = w.ctl.offset) : w'.floor = w.floor := by
  unfold World.floor; rw [hm, ho]

/-- no panic in `findClosestDistinctTarget` -/
theorem MapInv.closest_ok {c : Ctl} (h : MapInv c) (t : Int) :
    ∃ k, closestDistinct c t = .ok k ∧ ∃ i, i < c.distinct.size ∧ c.distinct[i]! = k :=
  findClosest_mem c.distinct t h.distinct_ne

theorem mapGet_range {m : List (Int × Int)} (hm : MapOk m) (k : Int) :
    0 ≤ mapGet m k ∧ mapGet m k ≤ 255 := by
  unfold mapGet
  split
  · next p hp => exact hm.2.2 p (List.mem_of_find?_eq_some hp)
  · omega

/-- the `lastSetPwm` value fed to the control loop as "current" -/
def lastSetR (w : World) : Res Int :=
  match w.ctl.lastSet with
  | some v => .ok v
  | none => if supports w.fan w.dev .pwmSensor then ctlGetPwm w else .ok w.fan.getMin

def withLoop (w : World) (l : LoopSt) : World := { w with ctl := { w.ctl with loop := l } }

def bumpUnexpected (w : World) : World :=
  { w with ctl := { w.ctl with unexpectedCount := w.ctl.unexpectedCount + 1 } }

/-- the state change of the stall branch -/
def raiseWorld (indef : Int) (w : World) : World :=
  { w with ctl := { w.ctl with offset := w.ctl.offset + 1, increasedCount := w.ctl.increasedCount + 1 },
           fan := w.fan.setRpmAvg indef (ofInt 1) }

/-- "the computed target": loop output, clamped, rescaled into `[floor, max]` -/
def computedTarget (indef : Int) (w : World) (cv last now : Int) : Int :=
  rescale indef (clamp255 (w.ctl.loop.cycle indef cv last now).2) (w.fan.getMin + w.ctl.offset) w.fan.getMax

/-- the stall test of controller.go:476-483 -/
def stalled (indef : Int) (w : World) (target : Int) : Bool :=
  supports w.fan w.dev .rpmSensor && w.fan.neverStop && w.ctl.lastSet == some target
    && decide (toInt indef w.fan.getRpmAvg ≤ 0)

theorem stalled_iff (indef : Int) (w : World) (t : Int) :
    stalled indef w t = true ↔
      supports w.fan w.dev .rpmSensor = true ∧ w.fan.neverStop = true ∧ w.ctl.lastSet = some t ∧
        toInt indef w.fan.getRpmAvg ≤ 0 := by
  unfold stalled
  simp only [Bool.and_eq_true, beq_iff_eq, decide_eq_true_eq, and_assoc]

/-- the stall test and its three exits (controller.go:476-499) on the world `wm` that the
    third-party check left; `w` is the world before, whose limits and floor are reported -/
def stallBranch (indef : Int) (w wm : World) (obs0 : List Obs) (t : Int) : World × Res Int × List Obs :=
  if stalled indef wm t = true then
    if t ≥ w.fan.getMax then (wm, .err "stalled-at-max", obs0 ++ [.stalledAtMax])
    else (raiseWorld indef wm, .ok (t + 1), obs0 ++ [.raised w.floor (w.floor + 1), .requested (t + 1)])
  else (wm, .ok t, obs0 ++ [.requested t])

theorem stallBranch_plain {indef : Int} {w wm : World} {obs0 : List Obs} {t : Int}
    (hs : stalled indef wm t = false) :
    stallBranch indef w wm obs0 t = (wm, .ok t, obs0 ++ [.requested t]) := by
  unfold stallBranch; rw [hs]; rfl

theorem stallBranch_raise {indef : Int} {w wm : World} {obs0 : List Obs} {t : Int}
    (hs : stalled indef wm t = true) (hlt : t < w.fan.getMax) :
    stallBranch indef w wm obs0 t =
      (raiseWorld indef wm, .ok (t + 1), obs0 ++ [.raised w.floor (w.floor + 1), .requested (t + 1)]) := by
  unfold stallBranch; rw [if_pos hs, if_neg (by omega)]

theorem stallBranch_atMax {indef : Int} {w wm : World} {obs0 : List Obs} {t : Int}
    (hs : stalled indef wm t = true) (hge : w.fan.getMax ≤ t) :
    stallBranch indef w wm obs0 t = (wm, .err "stalled-at-max", obs0 ++ [.stalledAtMax]) := by
  unfold stallBranch; rw [if_pos hs, if_pos hge]

theorem stallBranch_no_panic (indef : Int) (w wm : World) (obs0 : List Obs) (t : Int) :
    ∀ s, (stallBranch indef w wm obs0 t).2.1 ≠ .panic s := by
  intro s
  unfold stallBranch
  split
  · split <;> nofun
  · nofun

/-- Every lemma about `calculateTargetPwm` starts from here instead of unfolding it. -/
theorem calc_eq (indef : Int) (w : World) (curve : Res Int) (now : Int) :
    calculateTargetPwm indef w curve now =
      match lastSetR w with
      | .err e => (w, .err e, [])
      | .panic s => (w, .panic s, [])
      | .ok last =>
      match curve with
      | .err e => (w, .err e, [])
      | .panic s => (w, .panic s, [])
      | .ok cv =>
      match ensureNoThirdParty (withLoop w (w.ctl.loop.cycle indef cv last now).1) with
      | .err e => (withLoop w (w.ctl.loop.cycle indef cv last now).1, .err e, [])
      | .panic s => (withLoop w (w.ctl.loop.cycle indef cv last now).1, .panic s, [])
      | .ok (wm, obs0) => stallBranch indef w wm obs0 (computedTarget indef w cv last now) := rfl

theorem ensure_cases (w : World) :
    ensureNoThirdParty w = .ok (w, []) ∨
    (ensureNoThirdParty w = .ok (bumpUnexpected w, [.thirdParty]) ∧
      ∃ l k, w.ctl.lastSet = some l ∧ closestDistinct w.ctl l = .ok k ∧
        w.dev.pwm ≠ applyPwmMapping w.ctl k) ∨
    ((∀ x, ensureNoThirdParty w ≠ .ok x) ∧
      ∃ l, w.ctl.lastSet = some l ∧ ∀ k, closestDistinct w.ctl l ≠ .ok k) := by
  unfold ensureNoThirdParty
  split
  · exact .inl rfl
  · split
    · next l _ hl _ =>
      split
      · next k hk =>
        split
        · next cur hcur =>
          have hc : cur = w.dev.pwm := by
            unfold fanGetPwm at hcur; split at hcur <;> cases hcur; rfl
          subst hc
          dsimp only
          split
          · next hne => exact .inr (.inl ⟨rfl, l, k, hl, hk, hne⟩)
          · exact .inl rfl
        · exact .inl rfl
      · next e he =>
        exact .inr (.inr ⟨fun x h => (by cases h), l, hl, fun k hk => (by rw [hk] at he; cases he)⟩)
      · next s he =>
        exact .inr (.inr ⟨fun x h => (by cases h), l, hl, fun k hk => (by rw [hk] at he; cases he)⟩)
    · exact .inl rfl

/-- the only error `ensureNoThirdParty` hands on is `closestDistinct`'s, and that has none -/
theorem ensure_ne_err (w : World) (e : String) : ensureNoThirdParty w ≠ .err e := by
  unfold ensureNoThirdParty
  split
  · nofun
  · split
    · next l _ _ _ =>
      cases hc : closestDistinct w.ctl l with
      | err e' => exact absurd hc (findClosest_ne_err _ _ _)
      | panic p => nofun
      | ok k =>
        dsimp only
        split
        · split <;> nofun
        · nofun
    · nofun

theorem ensure_ok (w : World) (hne : w.ctl.distinct.size ≠ 0) :
    ensureNoThirdParty w = .ok (w, []) ∨
    ensureNoThirdParty w = .ok (bumpUnexpected w, [.thirdParty]) := by
  rcases ensure_cases w with he | ⟨he, -⟩ | ⟨-, l, -, hk⟩
  · exact .inl he
  · exact .inr he
  · obtain ⟨k, hk'⟩ := findClosest_ok w.ctl.distinct l hne
    exact absurd hk' (hk k)

/-- The worlds `calculateTargetPwm` passes through before the stall test differ from `w` only in
    the loop memory and the third-party counter. -/
structure Mid (w wm : World) : Prop where
  fan : wm.fan = w.fan
  dev : wm.dev = w.dev
  rpmWindow : wm.rpmWindow = w.rpmWindow
  lastSet : wm.ctl.lastSet = w.ctl.lastSet
  offset : wm.ctl.offset = w.ctl.offset
  pwmMap : wm.ctl.pwmMap = w.ctl.pwmMap
  distinct : wm.ctl.distinct = w.ctl.distinct
  increasedCount : wm.ctl.increasedCount = w.ctl.increasedCount
  origMode : wm.ctl.origMode = w.ctl.origMode
  origPwm : wm.ctl.origPwm = w.ctl.origPwm

theorem Mid.refl (w : World) : Mid w w := ⟨rfl, rfl, rfl, rfl, rfl, rfl, rfl, rfl, rfl, rfl⟩
theorem withLoop_mid (w : World) (l : LoopSt) : Mid w (withLoop w l) :=
  ⟨rfl, rfl, rfl, rfl, rfl, rfl, rfl, rfl, rfl, rfl⟩
theorem bumpUnexpected_mid (w : World) (l : LoopSt) : Mid w (bumpUnexpected (withLoop w l)) :=
  ⟨rfl, rfl, rfl, rfl, rfl, rfl, rfl, rfl, rfl, rfl⟩

theorem Mid.stalled {w wm : World} (h : Mid w wm) (indef t : Int) :
    stalled indef wm t = stalled indef w t := by
  unfold Fan2go.stalled; rw [h.fan, h.dev, h.lastSet]

/-- observations made before the stall test -/
def PreObs (o : List Obs) : Prop := o = [] ∨ o = [.thirdParty]

/-- All outcomes of `calculateTargetPwm`, backwards. The stall test is stated of `w`, which users
    know, not of the intermediate `wm` it is made in (the same by `Mid.stalled`). -/
inductive CalcCase (indef : Int) (w : World) (curve : Res Int) (now : Int) :
    World → Res Int → List Obs → Prop
  /-- early exit: reading the current PWM failed, the curve failed, or the third-party check
      panicked -/
  | fail (wm : World) (r : Res Int) (hm : Mid w wm) (hr : ∀ t, r ≠ .ok t) :
      CalcCase indef w curve now wm r []
  | atMax (wm : World) (obs0 : List Obs) (cv last : Int) (hm : Mid w wm) (ho : PreObs obs0)
      (hc : curve = .ok cv) (hl : lastSetR w = .ok last)
      (hs : stalled indef w (computedTarget indef w cv last now) = true)
      (hge : computedTarget indef w cv last now ≥ w.fan.getMax) :
      CalcCase indef w curve now wm (.err "stalled-at-max") (obs0 ++ [.stalledAtMax])
  | raise (wm : World) (obs0 : List Obs) (cv last : Int) (hm : Mid w wm) (ho : PreObs obs0)
      (hc : curve = .ok cv) (hl : lastSetR w = .ok last)
      (hs : stalled indef w (computedTarget indef w cv last now) = true)
      (hlt : computedTarget indef w cv last now < w.fan.getMax) :
      CalcCase indef w curve now (raiseWorld indef wm) (.ok (computedTarget indef w cv last now + 1))
        (obs0 ++ [.raised w.floor (w.floor + 1), .requested (computedTarget indef w cv last now + 1)])
  | plain (wm : World) (obs0 : List Obs) (cv last : Int) (hm : Mid w wm) (ho : PreObs obs0)
      (hc : curve = .ok cv) (hl : lastSetR w = .ok last)
      (hs : stalled indef w (computedTarget indef w cv last now) = false) :
      CalcCase indef w curve now wm (.ok (computedTarget indef w cv last now))
        (obs0 ++ [.requested (computedTarget indef w cv last now)])

theorem ensure_mid {w : World} {l : LoopSt} {wm : World} {obs0 : List Obs}
    (h : ensureNoThirdParty (withLoop w l) = .ok (wm, obs0)) : Mid w wm ∧ PreObs obs0 := by
  rcases ensure_cases (withLoop w l) with he | ⟨he, -⟩ | ⟨he, -⟩
  · rw [he] at h; cases h; exact ⟨withLoop_mid w l, .inl rfl⟩
  · rw [he] at h; cases h; exact ⟨bumpUnexpected_mid w l, .inr rfl⟩
  · exact absurd h (he _)

theorem CalcCase.of_eq {indef : Int} {w : World} {curve : Res Int} {now : Int} {w' : World} {r : Res Int}
    {obs : List Obs} (h : calculateTargetPwm indef w curve now = (w', r, obs)) :
    CalcCase indef w curve now w' r obs := by
  rw [calc_eq] at h
  split at h
  · cases h; exact .fail w _ (Mid.refl w) nofun
  · cases h; exact .fail w _ (Mid.refl w) nofun
  next last h1 =>
  split at h
  · cases h; exact .fail w _ (Mid.refl w) nofun
  · cases h; exact .fail w _ (Mid.refl w) nofun
  next cv =>
  split at h
  · cases h; exact .fail _ _ (withLoop_mid w _) nofun
  · cases h; exact .fail _ _ (withLoop_mid w _) nofun
  next wm obs0 h2 =>
  obtain ⟨hm, ho⟩ := ensure_mid h2
  cases hs : stalled indef wm (computedTarget indef w cv last now) with
  | false =>
    rw [stallBranch_plain hs] at h; cases h
    exact .plain _ _ cv last hm ho rfl h1 (hm.stalled indef _ ▸ hs)
  | true =>
    rcases Int.lt_or_le (computedTarget indef w cv last now) w.fan.getMax with hlt | hge
    · rw [stallBranch_raise hs hlt] at h; cases h
      exact .raise _ _ cv last hm ho rfl h1 (hm.stalled indef _ ▸ hs) hlt
    · rw [stallBranch_atMax hs hge] at h; cases h
      exact .atMax _ _ cv last hm ho rfl h1 (hm.stalled indef _ ▸ hs) hge

theorem calc_cases (indef : Int) (w : World) (curve : Res Int) (now : Int) :
    CalcCase indef w curve now (calculateTargetPwm indef w curve now).1
      (calculateTargetPwm indef w curve now).2.1 (calculateTargetPwm indef w curve now).2.2 :=
  CalcCase.of_eq rfl

theorem lastSetR_of_some {w : World} {l : Int} (h : w.ctl.lastSet = some l) : lastSetR w = .ok l := by
  unfold lastSetR; rw [h]

theorem ctlGetPwm_no_panic (w : World) : ∀ s, ctlGetPwm w ≠ .panic s := by
  intro s
  unfold ctlGetPwm
  split
  · exact fanGetPwm_no_panic w.dev s
  · split <;> nofun

theorem lastSetR_no_panic (w : World) : ∀ s, lastSetR w ≠ .panic s := by
  intro s
  unfold lastSetR
  split
  · nofun
  · split
    · exact ctlGetPwm_no_panic w s
    · nofun

/-- `e'`: the curve's error, or the PWM read's, which is looked at first -/
theorem calc_curve_err (indef : Int) (w : World) (e : String) (now : Int) :
    ∃ e', calculateTargetPwm indef w (.err e) now = (w, .err e', []) := by
  rw [calc_eq]
  cases hl : lastSetR w with
  | err e' => exact ⟨e', rfl⟩
  | panic s => exact absurd hl (lastSetR_no_panic w s)
  | ok last => exact ⟨e, rfl⟩

theorem calc_no_panic {w : World} (hne : w.ctl.distinct.size ≠ 0) (indef : Int) (curve : Res Int) (now : Int)
    (hc : ∀ s, curve ≠ .panic s) : ∀ s, (calculateTargetPwm indef w curve now).2.1 ≠ .panic s := by
  intro s
  rw [calc_eq]
  cases hl : lastSetR w with
  | err e => nofun
  | panic s' => exact absurd hl (lastSetR_no_panic w s')
  | ok last =>
  cases curve with
  | err e => nofun
  | panic s' => exact absurd rfl (hc s')
  | ok cv =>
  dsimp only
  rcases ensure_ok (withLoop w (w.ctl.loop.cycle indef cv last now).1) hne with h2 | h2 <;>
    rw [h2] <;> exact stallBranch_no_panic _ _ _ _ _ s

def Obs.isRaised : Obs → Bool
  | .raised _ _ => true
  | _ => false

/-- number of stall raises announced in a list of observations -/
def raisesOf (o : List Obs) : Nat := o.countP Obs.isRaised

theorem raisesOf_append (a b : List Obs) : raisesOf (a ++ b) = raisesOf a + raisesOf b :=
  List.countP_append

theorem raisesOf_eq_zero {o : List Obs} (h : ∀ x ∈ o, x.isRaised = false) : raisesOf o = 0 := by
  unfold raisesOf
  rw [List.countP_eq_zero]
  intro x hx; rw [h x hx]; simp

theorem raisesOf_raise (a b t : Int) : raisesOf [.raised a b, .requested t] = 1 := rfl

theorem PreObs.raises {o : List Obs} (h : PreObs o) : raisesOf o = 0 := by
  rcases h with rfl | rfl <;> rfl

theorem PreObs.mem_append {o l : List Obs} (h : PreObs o) {x : Obs} (hx : x ≠ .thirdParty) :
    x ∈ o ++ l ↔ x ∈ l := by
  rcases h with rfl | rfl
  · rw [List.nil_append]
  · rw [List.singleton_append, List.mem_cons]; exact ⟨fun h => h.resolve_left hx, .inr⟩

/-- what `calculateTargetPwm` leaves untouched, whatever the outcome -/
structure CalcFrame (w w' : World) : Prop where
  fan : FanSame w.fan w'.fan
  dev : w'.dev = w.dev
  rpmWindow : w'.rpmWindow = w.rpmWindow
  lastSet : w'.ctl.lastSet = w.ctl.lastSet
  pwmMap : w'.ctl.pwmMap = w.ctl.pwmMap
  distinct : w'.ctl.distinct = w.ctl.distinct
  origMode : w'.ctl.origMode = w.ctl.origMode
  origPwm : w'.ctl.origPwm = w.ctl.origPwm

theorem Mid.calcFrame {w wm : World} (h : Mid w wm) : CalcFrame w wm :=
  ⟨by rw [h.fan]; exact FanSame.refl _, h.dev, h.rpmWindow, h.lastSet, h.pwmMap, h.distinct,
    h.origMode, h.origPwm⟩

theorem Mid.raise_fan {w wm : World} (h : Mid w wm) (indef : Int) :
    (raiseWorld indef wm).fan = w.fan.setRpmAvg indef (ofInt 1) :=
  congrArg (FanSt.setRpmAvg indef · (ofInt 1)) h.fan

theorem Mid.raiseFrame {w wm : World} (h : Mid w wm) (indef : Int) : CalcFrame w (raiseWorld indef wm) :=
  ⟨by rw [h.raise_fan]; exact setRpmAvg_fanSame _ _ _,
    h.dev, h.rpmWindow, h.lastSet, h.pwmMap, h.distinct, h.origMode, h.origPwm⟩

theorem raiseWorld_offset (indef : Int) (w : World) :
    (raiseWorld indef w).ctl.offset = w.ctl.offset + 1 := rfl

theorem Mid.raise_floor {w wm : World} (h : Mid w wm) (indef : Int) :
    (raiseWorld indef wm).floor = w.floor + 1 := by
  unfold World.floor
  rw [(h.raiseFrame indef).fan.getMin, raiseWorld_offset, h.offset]; omega

theorem CalcCase.frame {indef : Int} {w : World} {curve : Res Int} {now : Int} {w' : World}
    {r : Res Int} {obs : List Obs} (h : CalcCase indef w curve now w' r obs) : CalcFrame w w' := by
  cases h with
  | raise wm obs0 cv last hm => exact hm.raiseFrame indef
  | fail _ _ hm | atMax _ _ _ _ hm | plain _ _ _ _ hm => exact hm.calcFrame

/-- each announced raise is one increment of `minPwmOffset`, and nothing else changes it -/
theorem CalcCase.offset {indef : Int} {w : World} {curve : Res Int} {now : Int} {w' : World}
    {r : Res Int} {obs : List Obs} (h : CalcCase indef w curve now w' r obs) :
    w'.ctl.offset = w.ctl.offset + (raisesOf obs : Int) := by
  cases h with
  | fail wm r hm hr => rw [hm.offset]; simp [raisesOf]
  | raise wm obs0 cv last hm ho =>
    rw [raiseWorld_offset, hm.offset, raisesOf_append, ho.raises, raisesOf_raise]; simp
  | atMax _ _ _ _ hm ho | plain _ _ _ _ hm ho =>
    rw [hm.offset, raisesOf_append, ho.raises]; simp [raisesOf, Obs.isRaised]

theorem CalcCase.no_write {indef : Int} {w : World} {curve : Res Int} {now : Int} {w' : World}
    {r : Res Int} {obs : List Obs} (h : CalcCase indef w curve now w' r obs) (v : Int) (ok : Bool) :
    Obs.wrotePwm v ok ∉ obs := by
  cases h with
  | fail => exact List.not_mem_nil
  | atMax _ _ _ _ _ ho | raise _ _ _ _ _ ho | plain _ _ _ _ _ ho =>
    rw [ho.mem_append (x := .wrotePwm v ok) nofun]; simp

theorem CalcCase.requested_iff {indef : Int} {w : World} {curve : Res Int} {now : Int} {w' : World}
    {r : Res Int} {obs : List Obs} (h : CalcCase indef w curve now w' r obs) {t : Int} :
    Obs.requested t ∈ obs ↔ r = .ok t := by
  cases h with
  | fail wm r hm hr => exact ⟨fun hx => (nomatch hx), fun h => absurd h (hr t)⟩
  | atMax _ _ _ _ _ ho | raise _ _ _ _ _ ho | plain _ _ _ _ _ ho =>
    rw [ho.mem_append (x := .requested t) nofun]; simp [eq_comm]

/-- the shape of a raise (C02): strict, by one, and the request goes one above the stalled one -/
theorem CalcCase.raise_shape {indef : Int} {w : World} {curve : Res Int} {now : Int} {w' : World}
    {r : Res Int} {obs : List Obs} (h : CalcCase indef w curve now w' r obs) {a b : Int}
    (hx : Obs.raised a b ∈ obs) :
    a = w.floor ∧ b = a + 1 ∧ w'.ctl.offset = w.ctl.offset + 1 ∧ w'.floor = w.floor + 1 ∧
      ∃ l, stalled indef w l = true ∧ l < w.fan.getMax ∧ r = .ok (l + 1) ∧
        w'.fan = w.fan.setRpmAvg indef (ofInt 1) := by
  cases h with
  | fail wm r hm hr => cases hx
  | raise wm obs0 cv last hm ho hc hl hs hlt =>
    obtain ⟨rfl, rfl⟩ : a = w.floor ∧ b = w.floor + 1 := by
      simpa using (ho.mem_append (x := .raised a b) nofun).1 hx
    exact ⟨rfl, rfl, by rw [raiseWorld_offset, hm.offset], hm.raise_floor indef, _, hs, hlt, rfl,
      hm.raise_fan indef⟩
  | atMax _ _ _ _ _ ho | plain _ _ _ _ _ ho =>
    rw [ho.mem_append (x := .raised a b) nofun] at hx; simp at hx

/-- what the lemmas about events read of `setPwm`'s frame (it changes `lastSetPwm` and the device
    only) -/
structure SetFrame (w w' : World) : Prop where
  fan : w'.fan = w.fan
  rpmWindow : w'.rpmWindow = w.rpmWindow
  offset : w'.ctl.offset = w.ctl.offset
  pwmMap : w'.ctl.pwmMap = w.ctl.pwmMap
  distinct : w'.ctl.distinct = w.ctl.distinct

/-- `setPwm` leaves the register alone when it can be read and already shows the value -/
def skipWrite (w : World) (v : Int) : Bool :=
  supports w.fan w.dev .pwmSensor && (match fanGetPwm w.dev with | .ok cur => v == cur | _ => false)

theorem skipWrite_of_read {w : World} (h : w.dev.pwmRead = .ok) (v : Int) :
    skipWrite w v = (v == w.dev.pwm) := by
  unfold skipWrite fanGetPwm; rw [supports_pwmSensor_of_read h, h]; rfl

theorem ctlSetPwm_eq (w : World) (t : Int) :
    ctlSetPwm w t =
      match closestDistinct w.ctl t with
      | .err e => (w, .err e, [])
      | .panic s => (w, .panic s, [])
      | .ok k =>
        if skipWrite w (applyPwmMapping w.ctl k) = true
        then ({ w with ctl := { w.ctl with lastSet := some t } }, .ok (), [])
        else ({ w with ctl := { w.ctl with lastSet := some t },
                       dev := (fanSetPwm w.dev (applyPwmMapping w.ctl k)).1 },
              (fanSetPwm w.dev (applyPwmMapping w.ctl k)).2,
              [.wrotePwm (applyPwmMapping w.ctl k)
                (match (fanSetPwm w.dev (applyPwmMapping w.ctl k)).2 with | .ok _ => true | _ => false)]) := rfl

theorem ctlSetPwm_frame (w : World) (t : Int) : SetFrame w (ctlSetPwm w t).1 := by
  rw [ctlSetPwm_eq]
  cases closestDistinct w.ctl t with
  | ok k => dsimp only; split <;> exact ⟨rfl, rfl, rfl, rfl, rfl⟩
  | err | panic => exact ⟨rfl, rfl, rfl, rfl, rfl⟩

theorem ctlSetPwm_obs (w : World) {t k : Int} (hk : closestDistinct w.ctl t = .ok k) :
    (ctlSetPwm w t).2.2 = [] ∨ ∃ ok, (ctlSetPwm w t).2.2 = [.wrotePwm (applyPwmMapping w.ctl k) ok] := by
  rw [ctlSetPwm_eq, hk]
  dsimp only
  split
  · exact .inl rfl
  · exact .inr ⟨_, rfl⟩

/-- a controller that cannot read the PWM register back writes on every successful cycle -/
theorem ctlSetPwm_writes_blind (w : World) {t k : Int} (hk : closestDistinct w.ctl t = .ok k)
    (hb : supports w.fan w.dev .pwmSensor = false) :
    ∃ ok, (ctlSetPwm w t).2.2 = [.wrotePwm (applyPwmMapping w.ctl k) ok] := by
  have hskip : skipWrite w (applyPwmMapping w.ctl k) = false := by unfold skipWrite; rw [hb]; rfl
  rw [ctlSetPwm_eq, hk]
  dsimp only
  rw [hskip]
  exact ⟨_, rfl⟩

theorem ctlSetPwm_obs_any (w : World) (t : Int) :
    ∀ x ∈ (ctlSetPwm w t).2.2, ∃ v ok, x = .wrotePwm v ok := by
  cases hk : closestDistinct w.ctl t with
  | ok k =>
    rcases ctlSetPwm_obs w hk with h | ⟨ok, h⟩ <;> rw [h]
    · nofun
    · exact fun x hx => ⟨_, _, List.mem_singleton.1 hx⟩
  | err | panic => rw [ctlSetPwm_eq, hk]; nofun

/-- the world handed to `setPwm`: manual mode has been (tried to be) switched on -/
def afterManual (w : World) : World := { w with dev := (trySetManualPwm w.fan w.dev).1 }

/-- a failed PWM write is only logged: of `setPwm`'s outcomes only a panic is passed on -/
def logged : Res Unit → Res Unit
  | .panic s => .panic s
  | _ => .ok ()

theorem ctlSetPwm_logged (w : World) (t : Int) (hne : w.ctl.distinct.size ≠ 0) :
    logged (ctlSetPwm w t).2.1 = .ok () := by
  obtain ⟨k, hk⟩ : ∃ k, closestDistinct w.ctl t = .ok k := findClosest_ok w.ctl.distinct t hne
  rw [ctlSetPwm_eq, hk]
  dsimp only
  split
  · rfl
  · show logged (fanSetPwm _ _).2 = _
    unfold fanSetPwm; split <;> rfl

theorem ufs_eq (indef : Int) (w : World) (curve : Res Int) (now : Int) :
    updateFanSpeed indef w curve now =
      match calculateTargetPwm indef w curve now with
      | (w', .err e, o) => (w', .err e, o)
      | (w', .panic s, o) => (w', .panic s, o)
      | (w', .ok t, o) =>
        ((ctlSetPwm (afterManual w') t).1, logged (ctlSetPwm (afterManual w') t).2.1,
          o ++ (trySetManualPwm w'.fan w'.dev).2.2 ++ (ctlSetPwm (afterManual w') t).2.2) := by
  unfold updateFanSpeed afterManual
  rcases calculateTargetPwm indef w curve now with ⟨w', r, o⟩
  cases r with
  | err | panic => rfl
  | ok t =>
    dsimp only
    rcases ctlSetPwm { w' with dev := (trySetManualPwm w'.fan w'.dev).1 } t with ⟨w2, r2, o2⟩
    cases r2 <;> rfl

/-- `UpdateFanSpeed` returns an error only when `calculateTargetPwm` did, and nothing came after it. -/
theorem ufs_err_eq_calc {indef : Int} {w : World} {curve : Res Int} {now : Int} {e : String}
    (h : (updateFanSpeed indef w curve now).2.1 = .err e) :
    calculateTargetPwm indef w curve now =
      ((updateFanSpeed indef w curve now).1, .err e, (updateFanSpeed indef w curve now).2.2) := by
  rw [ufs_eq] at h ⊢
  generalize calculateTargetPwm indef w curve now = c at h ⊢
  obtain ⟨w1, r, o⟩ := c
  cases r with
  | err e' => cases h; rfl
  | panic s => cases h
  | ok t =>
    dsimp only at h
    generalize (ctlSetPwm (afterManual w1) t).2.1 = r2 at h
    cases r2 <;> cases h

theorem ufs_err_frame {indef : Int} {w : World} {curve : Res Int} {now : Int} {e : String}
    (h : (updateFanSpeed indef w curve now).2.1 = .err e) :
    CalcFrame w (updateFanSpeed indef w curve now).1 :=
  (CalcCase.of_eq (ufs_err_eq_calc h)).frame

/-- `setPwm` finds a supported input, and its write error is only logged -/
theorem ufs_result {w : World} (hne : w.ctl.distinct.size ≠ 0) (indef : Int) (curve : Res Int) (now : Int) :
    (updateFanSpeed indef w curve now).2.1 =
      (calculateTargetPwm indef w curve now).2.1.bind fun _ => .ok () := by
  have hd := (calc_cases indef w curve now).frame.distinct
  rw [ufs_eq]
  generalize calculateTargetPwm indef w curve now = c at hd ⊢
  obtain ⟨w', r, o⟩ := c
  cases r with
  | err | panic => rfl
  | ok t => exact ctlSetPwm_logged (afterManual w') t (by rw [← hd] at hne; exact hne)

theorem ufs_no_panic {w : World} (hne : w.ctl.distinct.size ≠ 0) (indef : Int) (curve : Res Int) (now : Int)
    (hc : ∀ s, curve ≠ .panic s) : ∀ s, (updateFanSpeed indef w curve now).2.1 ≠ .panic s := by
  intro s
  have h1 := calc_no_panic hne indef curve now hc s
  rw [ufs_result hne]
  cases h : (calculateTargetPwm indef w curve now).2.1 with
  | ok t => nofun
  | err e => nofun
  | panic s' => intro h'; cases h'; exact h1 h

end Fan2go
