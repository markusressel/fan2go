/-
  internal/fans/{common,hwmon}.go as modelled in Model/Fan.lean: `specStart` / `specMax` written from
  the property text and `boundariesLoop` computing them; each limit setter as one record update, hence
  `FanSt.attach` as one record (`attach_curve`); and the invariant "a configured limit is never
  replaced" (`CfgKept`) along arbitrary operation sequences.
-/
import Mathlib.Data.Int.Order.Basic
import Mathlib.Data.List.Induction
import Mathlib.Tactic.SplitIfs
import Fan2go.Model.Fan
import Fan2go.Proofs.FoldMinMax
namespace Fan2go
open F64

/-- the measured RPM of a data point "in whole RPM" (Go `int(rpm)`). -/
def rpmOf (indef : Int) (p : Int × F64) : Int := toInt indef p.2

/-- keys strictly increasing (Go: `sort.Ints(keys)` of a map's key set). -/
def KeysSorted (d : List (Int × F64)) : Prop := d.Pairwise (fun p q => p.1 < q.1)

/-- "the lowest measured PWM with non-zero RPM" (255 when no point rotates); the data are sorted by
    key, so the lowest is the first. -/
def specStart (indef : Int) (d : List (Int × F64)) : Int :=
  match d.find? (fun p => decide (0 < rpmOf indef p)) with
  | some p => p.1
  | none => 255

/-- "the highest RPM (in whole RPM)", 0 when nothing rotates. -/
def specMaxRpm (indef : Int) (d : List (Int × F64)) : Int := (d.map (rpmOf indef)).foldl max 0

/-- "the lowest measured PWM at which the highest RPM is reached" (255 when nothing rotates). -/
def specMax (indef : Int) (d : List (Int × F64)) : Int :=
  if 0 < specMaxRpm indef d then
    match d.find? (fun p => decide (rpmOf indef p = specMaxRpm indef d)) with
    | some p => p.1
    | none => 255
  else 255

theorem find_sorted_lowest {d : List (Int × F64)} (hs : KeysSorted d) {P : Int × F64 → Prop}
    [DecidablePred P] (h : ∃ q ∈ d, P q) :
    ∃ p, d.find? (fun p => decide (P p)) = some p ∧ p ∈ d ∧ P p ∧ ∀ q ∈ d, P q → p.1 ≤ q.1 := by
  cases hf : d.find? (fun p => decide (P p)) with
  | none =>
    obtain ⟨q, hq, hP⟩ := h
    simpa [hP] using List.find?_eq_none.mp hf q hq
  | some p =>
    obtain ⟨hp, as, bs, rfl, has⟩ := List.find?_eq_some_iff_append.mp hf
    obtain ⟨_, hbs, _⟩ := List.pairwise_append.mp hs
    refine ⟨p, rfl, by simp, of_decide_eq_true hp, fun q hq hPq => ?_⟩
    rcases List.mem_append.mp hq with ha | hb
    · simpa [hPq] using has q ha
    · rcases List.mem_cons.mp hb with rfl | hb
      · exact le_rfl
      · exact ((List.pairwise_cons.mp hbs).1 q hb).le

theorem specStart_none (indef : Int) (d : List (Int × F64))
    (h : ∀ p ∈ d, rpmOf indef p ≤ 0) : specStart indef d = 255 := by
  unfold specStart
  have : d.find? (fun p => decide (0 < rpmOf indef p)) = none := by
    rw [List.find?_eq_none]; intro p hp; simpa using h p hp
  rw [this]

theorem specStart_lowest (indef : Int) {d : List (Int × F64)} (hs : KeysSorted d)
    (h : ∃ p ∈ d, 0 < rpmOf indef p) :
    ∃ p ∈ d, p.1 = specStart indef d ∧ 0 < rpmOf indef p ∧
      ∀ q ∈ d, 0 < rpmOf indef q → specStart indef d ≤ q.1 := by
  obtain ⟨p, hf, m, pp, low⟩ := find_sorted_lowest hs h
  unfold specStart
  rw [hf]
  exact ⟨p, m, rfl, pp, low⟩

theorem specMaxRpm_ge (indef : Int) (d : List (Int × F64)) :
    0 ≤ specMaxRpm indef d ∧ ∀ p ∈ d, rpmOf indef p ≤ specMaxRpm indef d :=
  have h := List.foldl_max_le_iff.1 (le_refl ((d.map (rpmOf indef)).foldl max 0))
  ⟨h.1, fun p hp => h.2 _ (List.mem_map.mpr ⟨p, hp, rfl⟩)⟩

theorem specMaxRpm_mem (indef : Int) {d : List (Int × F64)} (h : 0 < specMaxRpm indef d) :
    ∃ p ∈ d, rpmOf indef p = specMaxRpm indef d := by
  rcases List.foldl_max_mem (d.map (rpmOf indef)) 0 with h0 | hm
  · exact absurd h0 h.ne'
  · obtain ⟨p, hp, he⟩ := List.mem_map.mp hm
    exact ⟨p, hp, he⟩

theorem specMax_none (indef : Int) (d : List (Int × F64))
    (h : ∀ p ∈ d, rpmOf indef p ≤ 0) : specMax indef d = 255 := by
  unfold specMax
  rw [if_neg]
  intro hpos
  obtain ⟨p, hp, he⟩ := specMaxRpm_mem indef hpos
  have := h p hp
  omega

theorem specMax_lowest (indef : Int) {d : List (Int × F64)} (hs : KeysSorted d)
    (h : ∃ p ∈ d, 0 < rpmOf indef p) :
    ∃ p ∈ d, p.1 = specMax indef d ∧ (∀ q ∈ d, rpmOf indef q ≤ rpmOf indef p) ∧
      ∀ q ∈ d, (∀ r ∈ d, rpmOf indef r ≤ rpmOf indef q) → specMax indef d ≤ q.1 := by
  obtain ⟨p0, hp0, hpos0⟩ := h
  obtain ⟨_, hge⟩ := specMaxRpm_ge indef d
  have hMpos : 0 < specMaxRpm indef d := lt_of_lt_of_le hpos0 (hge p0 hp0)
  obtain ⟨p, hf, m, ppe, low⟩ := find_sorted_lowest hs (specMaxRpm_mem indef hMpos)
  unfold specMax
  rw [if_pos hMpos, hf]
  refine ⟨p, m, rfl, fun q hq => ppe ▸ hge q hq, fun q hq hq' => low q hq ?_⟩
  exact le_antisymm (hge q hq) (ppe ▸ hq' p m)

theorem boundariesLoop_cons (indef : Int) (k : Int) (v : F64) (rest : List (Int × F64))
    (mr mp sp : Int) :
    boundariesLoop indef ((k, v) :: rest) (mr, mp, sp) =
      boundariesLoop indef rest
        (if toInt indef v > mr then toInt indef v else mr,
         if toInt indef v > mr then k else mp,
         if toInt indef v > 0 ∧ k < sp then k else sp) := by
  simp only [boundariesLoop]
  split_ifs <;> rfl

theorem boundariesLoop_append (indef : Int) (d e : List (Int × F64)) (acc : Int × Int × Int) :
    boundariesLoop indef (d ++ e) acc = boundariesLoop indef e (boundariesLoop indef d acc) := by
  induction d generalizing acc with
  | nil => rfl
  | cons p r ih =>
    obtain ⟨a, b, c⟩ := acc; obtain ⟨k, v⟩ := p
    rw [List.cons_append, boundariesLoop_cons, boundariesLoop_cons]; exact ih _

theorem specMaxRpm_snoc (indef : Int) (d : List (Int × F64)) (p : Int × F64) :
    specMaxRpm indef (d ++ [p]) =
      if specMaxRpm indef d < rpmOf indef p then rpmOf indef p else specMaxRpm indef d := by
  simp only [specMaxRpm, List.map_append, List.foldl_append, List.map_cons, List.map_nil,
    List.foldl_cons, List.foldl_nil, max_def]
  split_ifs <;> omega

theorem specStart_snoc (indef : Int) {d : List (Int × F64)} {p : Int × F64}
    (hs : KeysSorted (d ++ [p])) (h255 : p.1 ≤ 255) :
    specStart indef (d ++ [p]) =
      if 0 < rpmOf indef p ∧ p.1 < specStart indef d then p.1 else specStart indef d := by
  unfold specStart
  rw [List.find?_append]
  cases hf : d.find? (fun p => decide (0 < rpmOf indef p)) with
  | some q =>
    have : q.1 < p.1 :=
      (List.pairwise_append.mp hs).2.2 q (List.mem_of_find?_eq_some hf) p (List.mem_singleton_self _)
    simp only [Option.some_or]; split_ifs <;> omega
  | none =>
    -- nothing rotated so far: the candidate is still 255, which `p.1 ≤ 255` replaces or equals
    by_cases hr : 0 < rpmOf indef p
    · simp [hr]; omega
    · simp [hr]

theorem specMax_snoc (indef : Int) (d : List (Int × F64)) (p : Int × F64) :
    specMax indef (d ++ [p]) =
      if specMaxRpm indef d < rpmOf indef p then p.1 else specMax indef d := by
  obtain ⟨h0, hge⟩ := specMaxRpm_ge indef d
  unfold specMax
  rw [specMaxRpm_snoc, List.find?_append]
  split_ifs with hx hpos hpos
  · have : d.find? (fun q => decide (rpmOf indef q = rpmOf indef p)) = none :=
      List.find?_eq_none.mpr fun q hq => by have := hge q hq; simp; omega
    simp [this]
  · omega
  · obtain ⟨q, hq, he⟩ := specMaxRpm_mem indef hpos
    cases hf : d.find? (fun q => decide (rpmOf indef q = specMaxRpm indef d)) with
    | some _ => rfl
    | none => exact absurd he (by simpa using List.find?_eq_none.mp hf q hq)
  · rfl

/-- Read as a loop invariant over prefixes (the proof appends one point at a time): the three
    variables hold the specification functions of the data seen so far. -/
theorem boundariesLoop_spec (indef : Int) {d : List (Int × F64)} (hs : KeysSorted d)
    (hk : ∀ p ∈ d, p.1 ≤ 255) :
    boundariesLoop indef d (0, 255, 255)
      = (specMaxRpm indef d, specMax indef d, specStart indef d) := by
  induction d using List.reverseRecOn with
  | nil => rfl
  | append_singleton d p ih =>
    obtain ⟨k, v⟩ := p
    rw [boundariesLoop_append,
      ih (List.pairwise_append.mp hs).1 (fun q hq => hk q (List.mem_append_left _ hq)),
      boundariesLoop_cons, specMaxRpm_snoc, specMax_snoc, specStart_snoc indef hs (hk _ (by simp))]
    rfl

theorem computePwmBoundaries_spec (indef : Int) (user : Int) (d : List (Int × F64))
    (hs : KeysSorted d) (hk : ∀ p ∈ d, p.1 ≤ 255) :
    computePwmBoundaries indef user d =
      (if user < 255 then user else specStart indef d, specMax indef d) := by
  unfold computePwmBoundaries
  rw [boundariesLoop_spec indef hs hk]

theorem FanSt.setMin_eq (f : FanSt) (v : Int) (force : Bool) :
    f.setMin v force =
      { f with
        minP := if f.kind = .hwmon ∧ (f.cfgMin = none ∨ force = true) then some v else f.minP } := by
  rcases f with ⟨_ | _ | _, _, _ | _⟩ <;> cases force <;> rfl

theorem FanSt.setStart_eq (f : FanSt) (v : Int) (force : Bool) :
    f.setStart v force =
      { f with
        startP :=
          if f.kind = .hwmon ∧ (f.cfgStart = none ∨ force = true) then some v else f.startP } := by
  rcases f with ⟨_ | _ | _, _, _, _ | _⟩ <;> cases force <;> rfl

theorem FanSt.setMax_eq (f : FanSt) (v : Int) (force : Bool) :
    f.setMax v force =
      { f with
        maxP := if f.kind = .hwmon ∧ (f.cfgMax = none ∨ force = true) then some v else f.maxP } := by
  rcases f with ⟨_ | _ | _, _, _, _, _ | _⟩ <;> cases force <;> rfl

/-- what a successful attachment does to a hwmon fan. -/
def attachOk (indef : Int) (f : FanSt) (d : List (Int × F64)) : FanSt :=
  let b := computePwmBoundaries indef f.getStart d
  ((({ f with curveData := some d }).setStart b.1 false).setMax b.2 false).setMin b.1 false

theorem attachOk_eq (indef : Int) (f : FanSt) (d : List (Int × F64)) :
    attachOk indef f d =
      { f with
        curveData := some d
        startP := if f.kind = .hwmon ∧ f.cfgStart = none
          then some (computePwmBoundaries indef f.getStart d).1 else f.startP
        maxP := if f.kind = .hwmon ∧ f.cfgMax = none
          then some (computePwmBoundaries indef f.getStart d).2 else f.maxP
        minP := if f.kind = .hwmon ∧ f.cfgMin = none
          then some (computePwmBoundaries indef f.getStart d).1 else f.minP } := by
  unfold attachOk
  simp only [FanSt.setMin_eq, FanSt.setMax_eq, FanSt.setStart_eq, Bool.false_eq_true, or_false]

theorem attach_hwmon_nonempty (indef : Int) (f : FanSt) (hk : f.kind = .hwmon) (d : List (Int × F64))
    (hd : d ≠ []) : f.attach indef (some d) = (attachOk indef f d, .ok ()) := by
  obtain ⟨k⟩ := f
  cases hk
  cases d with
  | nil => exact absurd rfl hd
  | cons p r => rfl

theorem attach_hwmon_empty (indef : Int) (f : FanSt) (hk : f.kind = .hwmon) :
    f.attach indef (some []) = (f, .err "invalid") ∧ f.attach indef none = (f, .err "invalid") := by
  unfold FanSt.attach; rw [hk]; exact ⟨rfl, rfl⟩

theorem attach_other (indef : Int) (f : FanSt) (hk : f.kind ≠ .hwmon)
    (d : Option (List (Int × F64))) : f.attach indef d = (f, .ok ()) := by
  unfold FanSt.attach
  cases h : f.kind <;> simp_all

theorem attach_cases (indef : Int) (f : FanSt) (d : Option (List (Int × F64))) :
    (f.attach indef d).1 = f ∨ ∃ l, (f.attach indef d).1 = attachOk indef f l := by
  by_cases hk : f.kind = .hwmon
  · rcases d with _ | _ | ⟨p, r⟩
    · exact .inl (by rw [(attach_hwmon_empty indef f hk).2])
    · exact .inl (by rw [(attach_hwmon_empty indef f hk).1])
    · exact .inr ⟨_, by rw [attach_hwmon_nonempty indef f hk _ (List.cons_ne_nil p r)]⟩
  · exact .inl (by rw [attach_other indef f hk])

theorem attach_kind (indef : Int) (fan : FanSt) (d : Option (List (Int × F64))) :
    (fan.attach indef d).1.kind = fan.kind := by
  rcases attach_cases indef fan d with e | ⟨l, e⟩ <;> rw [e]
  rw [attachOk_eq]

/-- `GetStartPwm()` below 255 counts as the user's override, whatever put it there. -/
theorem attach_curve (indef : Int) (f : FanSt) (hk : f.kind = .hwmon) {d : List (Int × F64)}
    (hne : d ≠ []) (hs : KeysSorted d) (h255 : ∀ p ∈ d, p.1 ≤ 255) :
    f.attach indef (some d) =
      ({ f with
          curveData := some d
          startP := if f.cfgStart = none
            then some (if f.getStart < 255 then f.getStart else specStart indef d) else f.startP
          maxP := if f.cfgMax = none then some (specMax indef d) else f.maxP
          minP := if f.cfgMin = none
            then some (if f.getStart < 255 then f.getStart else specStart indef d) else f.minP },
       .ok ()) := by
  rw [attach_hwmon_nonempty indef f hk d hne, attachOk_eq, computePwmBoundaries_spec indef _ d hs h255]
  simp only [hk, true_and]

theorem attach_new (indef : Int) (ns : Bool) (cfgMin cfgStart cfgMax : Option Int)
    {d : List (Int × F64)} (hne : d ≠ []) (hs : KeysSorted d) (h255 : ∀ p ∈ d, p.1 ≤ 255) :
    (FanSt.new .hwmon ns cfgMin cfgStart cfgMax).attach indef (some d) =
      ({ FanSt.new .hwmon ns cfgMin cfgStart cfgMax with
          curveData := some d
          startP := some (cfgStart.getD (specStart indef d))
          maxP := some (cfgMax.getD (specMax indef d))
          minP := some (cfgMin.getD
            (if cfgStart.getD 255 < 255 then cfgStart.getD 255 else specStart indef d)) },
       .ok ()) := by
  rw [attach_curve indef _ rfl hne hs h255]
  cases cfgMin <;> cases cfgStart <;> cases cfgMax <;> rfl

/-- the operations that can touch the limits of a fan during normal operation
    (the setters are always called with `force = false` there). -/
inductive LimOp where
  | attach (d : Option (List (Int × F64)))
  | setMin (v : Int)
  | setStart (v : Int)
  | setMax (v : Int)

def LimOp.apply (indef : Int) (f : FanSt) : LimOp → FanSt
  | .attach d => (f.attach indef d).1
  | .setMin v => f.setMin v false
  | .setStart v => f.setStart v false
  | .setMax v => f.setMax v false

def runLimOps (indef : Int) (f : FanSt) (ops : List LimOp) : FanSt := ops.foldl (LimOp.apply indef) f

/-- same configuration, and every configured limit is the effective one. -/
structure CfgKept (f0 f : FanSt) : Prop where
  kind : f.kind = f0.kind
  ns : f.neverStop = f0.neverStop
  cmin : f.cfgMin = f0.cfgMin
  cstart : f.cfgStart = f0.cfgStart
  cmax : f.cfgMax = f0.cfgMax
  wmin : ∀ v, f0.cfgMin = some v → f.minP = some v
  wstart : ∀ v, f0.cfgStart = some v → f.startP = some v
  wmax : ∀ v, f0.cfgMax = some v → f.maxP = some v

theorem cfgKept_new (kind : FanKind) (ns : Bool) (a b c : Option Int) :
    CfgKept (FanSt.new kind ns a b c) (FanSt.new kind ns a b c) :=
  ⟨rfl, rfl, rfl, rfl, rfl, fun _ h => h, fun _ h => h, fun _ h => h⟩

theorem CfgKept.setMin {f0 f : FanSt} (h : CfgKept f0 f) (v : Int) :
    CfgKept f0 (f.setMin v false) := by
  rw [FanSt.setMin_eq]
  exact { h with wmin := fun w hw => by simp [h.cmin.trans hw, h.wmin w hw] }

theorem CfgKept.setStart {f0 f : FanSt} (h : CfgKept f0 f) (v : Int) :
    CfgKept f0 (f.setStart v false) := by
  rw [FanSt.setStart_eq]
  exact { h with wstart := fun w hw => by simp [h.cstart.trans hw, h.wstart w hw] }

theorem CfgKept.setMax {f0 f : FanSt} (h : CfgKept f0 f) (v : Int) :
    CfgKept f0 (f.setMax v false) := by
  rw [FanSt.setMax_eq]
  exact { h with wmax := fun w hw => by simp [h.cmax.trans hw, h.wmax w hw] }

theorem CfgKept.attach (indef : Int) {f0 f : FanSt} (h : CfgKept f0 f)
    (d : Option (List (Int × F64))) : CfgKept f0 (f.attach indef d).1 := by
  rcases attach_cases indef f d with e | ⟨l, e⟩ <;> rw [e]
  · exact h
  · -- `{ h with }`: no field of `CfgKept` mentions `curveData`, so `h` serves the fan with the data
    exact ((CfgKept.setStart (f := { f with curveData := some l }) { h with } _).setMax _).setMin _

theorem CfgKept.run (indef : Int) {f0 f : FanSt} (h : CfgKept f0 f) (ops : List LimOp) :
    CfgKept f0 (runLimOps indef f ops) := by
  induction ops generalizing f with
  | nil => exact h
  | cons op r ih =>
    apply ih
    cases op
    · exact h.attach indef _
    · exact h.setMin _
    · exact h.setStart _
    · exact h.setMax _

end Fan2go
