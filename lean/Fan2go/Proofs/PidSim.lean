/-
  Validated simulation of the default PID loop at the default tick (200 ms) from a FRESH loop:
  an integer model at the nominal tick 1/5 s (integral = m/5) that branches wherever the exact output
  is within 1/1000 of a rounding tie; every abstract trajectory (hence the binary64 run) follows one
  of its branches; each branch is followed until it enters the region `Qpos`/`Qneg`/`ARest`.
  `simOk` is the exploration the soundness proof speaks of; `simS` computes it for a whole range of
  curve values at once, in a form the kernel evaluates cheaply.
-/
import Fan2go.Proofs.PidSettle
namespace Fan2go
open F64

/-- 1000 × (exact output) at tick 1/5: `300·e + 4·(m+e) + 25·(e − ep)`, integral = `m/5`. -/
def simU (c x m ep : Int) : Int := 300 * (c - x) + 4 * (m + (c - x)) + 25 * ((c - x) - ep)

def simLo (c x m ep : Int) : Int := clamp255 (x + (simU c x m ep + 499) / 1000)
def simHi (c x m ep : Int) : Int := clamp255 (x + (simU c x m ep + 501) / 1000)

/-- 1000 × the PI signal `Gq`. -/
def simG (c x m : Int) : Int := 300 * (c - x) + 4 * (m + (c - x))

/-- `Qpos` at `t = 1/5` in thousandths (`dl = 1/40` is 25, so 26 and 525 = 500 + 25; `e·t ≤ 25/2` is
    `e ≤ 62`), the inequalities on `simG` tightened by at least 1 to absorb `simG_close`.
    `-5000 ≤ simG` is not part of `Qpos`: it bounds the potential, `PhiN ≤ 27` (`Qpos.of_sim`). -/
def simQpos (c x m ep : Int) : Bool :=
  decide (1 ≤ c - x) && decide (c - x ≤ 62) &&
  (decide (ep = c - x) || decide (ep = c - x + 1)) &&
  (decide (x = 0) || decide (-490 + 26 * (ep - (c - x)) + 1 ≤ simG c x m)) &&
  decide (simG c x m + 1 ≤ 525 + 4 * (c - x)) && decide (-5000 ≤ simG c x m)

/-- `ARest` at `t = 1/5` in thousandths (`1/50·I` is `4m`, the derivative kick `25·ep`); 498 is 500 less
    2 for `2·eps` and the drift of `I` from `m/5` and of `t` from `1/5` (`ARest.of_sim`). -/
def simRest (c x m ep : Int) : Bool :=
  decide (x = c) &&
  (decide (c = 0) || (decide (-498 ≤ 4 * m - 25 * ep) && decide (-498 ≤ 4 * m))) &&
  (decide (c = 255) || (decide (4 * m - 25 * ep ≤ 498) && decide (4 * m ≤ 498)))

def simDone (c x m ep : Int) : Bool :=
  simRest c x m ep || simQpos c x m ep || simQpos (255 - c) (255 - x) (-m) (-ep)

def simOk (c : Int) : Nat → Int → Int → Int → Bool
  | 0, x, m, ep => simDone c x m ep
  | f + 1, x, m, ep =>
    simDone c x m ep ||
      (simOk c f (simLo c x m ep) (m + (c - x)) (c - x) &&
        (simLo c x m ep == simHi c x m ep || simOk c f (simHi c x m ep) (m + (c - x)) (c - x)))

/-- all starting requests for one curve value, fresh loop (integral 0, previous error = error). -/
def simAll (c : Int) (f : Nat) : Bool :=
  (List.range 256).all fun x0 => simOk c f (x0 : Int) 0 (c - (x0 : Int))

/-- the real tick is the `Seconds()` value of 200 ms. -/
structure Tick5 (t : ℚ) : Prop where
  close : |t - 1 / 5| ≤ 1 / 2 ^ 50

theorem Tick5.tickOk {t : ℚ} (h : Tick5 t) : TickOk t := by
  have := abs_le.mp h.close
  norm_num at this
  exact ⟨by linarith, by linarith⟩

theorem Tick5.inv_close {t : ℚ} (h : Tick5 t) : |1 / t - 5| ≤ 1 / 10 ^ 12 := by
  have hc := abs_le.mp h.close
  norm_num at hc
  have ht : t ≠ 0 := by linarith
  have h1 : 1 / t - 5 = 5 * (1 / 5 - t) / t := by
    rw [eq_div_iff ht, sub_mul, one_div, inv_mul_cancel₀ ht]; ring
  have h3 : |5 * (1 / 5 - t)| ≤ 5 / 2 ^ 50 := by rw [abs_le]; constructor <;> norm_num <;> linarith
  rw [h1]
  exact (abs_div_le' h3 (T := 1 / 6) (by norm_num) (by linarith)).trans (by norm_num)

theorem Tick5.dl_close {t : ℚ} (h : Tick5 t) : |dl t - 1 / 40| ≤ 1 / 10 ^ 12 := by
  have : dl t - 1 / 40 = 1 / 200 * (1 / t - 5) := by unfold dl; ring
  rw [this]
  exact (abs_mul_le' (a := 1 / 200) (A := 1 / 200) (by norm_num [abs_of_pos]) h.inv_close).trans
    (by norm_num)

theorem simG_close {c x m : Int} {t I : ℚ} (ht : Tick5 t) (he : |((c - x : Int) : ℚ)| ≤ 255) {β : ℚ}
    (hI : |I - (m : ℚ) / 5| ≤ β) :
    |Gq c x I t - (simG c x m : ℚ) / 1000| ≤ β / 50 + 1 / 10 ^ 12 := by
  have hid : Gq c x I t - (simG c x m : ℚ) / 1000
      = 1 / 50 * (I - (m : ℚ) / 5) + 1 / 50 * (((c - x : Int) : ℚ) * (t - 1 / 5)) := by
    unfold Gq simG; push_cast; ring
  rw [hid]
  have b1 : |1 / 50 * (I - (m : ℚ) / 5)| ≤ 1 / 50 * β :=
    abs_mul_le' (a := 1 / 50) (A := 1 / 50) (by norm_num [abs_of_pos]) hI
  have b2 : |1 / 50 * (((c - x : Int) : ℚ) * (t - 1 / 5))| ≤ 1 / 50 * (255 * (1 / 2 ^ 50)) :=
    abs_mul_le' (a := 1 / 50) (A := 1 / 50) (by norm_num [abs_of_pos]) (abs_mul_le' he ht.close)
  refine (abs_add_le' b1 b2).trans ?_
  norm_num
  linarith

theorem simU_close {c x m ep : Int} {t I : ℚ} (ht : Tick5 t) (he : |((c - x : Int) : ℚ)| ≤ 255)
    (hep : |ep| ≤ 255) {β : ℚ} (hI : |I - (m : ℚ) / 5| ≤ β) :
    |uExact ((c - x : Int) : ℚ) ep I t - (simU c x m ep : ℚ) / 1000| ≤ β / 50 + 1 / 10 ^ 9 := by
  have hd : |((ep - (c - x) : Int) : ℚ)| ≤ 2 * 255 := by
    rw [Int.cast_sub]; exact abs_sub_le_of_abs_le (by exact_mod_cast hep) he
  rw [show uExact ((c - x : Int) : ℚ) ep I t - (simU c x m ep : ℚ) / 1000
      = (Gq c x I t - (simG c x m : ℚ) / 1000) + -((dl t - 1 / 40) * ((ep - (c - x) : Int) : ℚ)) by
    rw [uExact_eq_Gq]; unfold simU simG; push_cast; ring]
  refine (abs_add_le' (simG_close ht he hI)
    ((abs_neg _).trans_le (abs_mul_le' ht.dl_close hd))).trans ?_
  norm_num
  linarith

theorem sim_step_sound {c x m ep x' : Int} {t I J : ℚ} (h : AStep c t x I ep x' J) (ht : Tick5 t)
    {β : ℚ} (hI : |I - (m : ℚ) / 5| ≤ β) (hβ : β ≤ 1 / 10 ^ 6) :
    (x' = simLo c x m ep ∨ x' = simHi c x m ep) ∧
    |J - ((m + (c - x) : Int) : ℚ) / 5| ≤ β + 1 / 2 ^ 29 := by
  have hy := abs_le.mp (simU_close ht h.e_abs h.ep_abs hI)
  have hε := eps_val
  constructor
  · unfold simLo simHi
    generalize simU c x m ep = U at hy ⊢
    have hlo := h.clamp_le (x + (U + 499) / 1000)
    have hhi := h.le_clamp (x + (U + 501) / 1000)
    have hq1 : 1000 * ((U + 499) / 1000) ≤ U + 499 := by omega
    have hq2 : U + 501 < 1000 * ((U + 501) / 1000 + 1) := by omega
    have hq : x + (U + 501) / 1000 ≤ x + (U + 499) / 1000 + 1 := by omega
    generalize (U + 499) / 1000 = q1 at *
    generalize (U + 501) / 1000 = q2 at *
    have hgap := (clamp255_monotone hq).trans (clamp255_succ_le _)
    have hq1' : (1000 : ℚ) * q1 ≤ U + 499 := by exact_mod_cast hq1
    have hq2' : (U : ℚ) + 501 < 1000 * (q2 + 1) := by exact_mod_cast hq2
    have := hlo (by rw [Int.cast_add]; linarith only [hq1', hy.1, hβ, hε])
    have := hhi (by rw [Int.cast_add]; linarith only [hq2', hy.2, hβ, hε])
    omega
  · have hid : J - ((m + (c - x) : Int) : ℚ) / 5
        = (J - (I + ((c - x : Int) : ℚ) * t)) + (I - (m : ℚ) / 5)
          + ((c - x : Int) : ℚ) * (t - 1 / 5) := by push_cast; ring
    rw [hid]
    refine (abs_add_le' (abs_add_le' h.Jc hI)
      (abs_mul_le' h.e_abs ht.close)).trans ?_
    rw [hε]; norm_num; linarith

theorem Qpos.of_sim {c x m ep : Int} {t I : ℚ} (ht : Tick5 t)
    (hI : |I - (m : ℚ) / 5| ≤ 1 / 10 ^ 6) (h : simQpos c x m ep = true) :
    Qpos c t x I ep ∧ PhiN c t x I ≤ 27 := by
  simp only [simQpos, Bool.and_eq_true, Bool.or_eq_true, decide_eq_true_eq] at h
  obtain ⟨⟨⟨⟨⟨h1, h2⟩, h3⟩, h4⟩, h5⟩, h6⟩ := h
  have he : |((c - x : Int) : ℚ)| ≤ 255 := by
    have : |c - x| ≤ 255 := by rw [abs_le]; constructor <;> omega
    exact_mod_cast this
  have hG := abs_le.mp (simG_close ht he hI)
  have hd := abs_le.mp ht.dl_close
  have htc := abs_le.mp ht.close
  have het := abs_le.mp (abs_mul_le' he ht.close)
  have hmul : ((c - x : Int) : ℚ) * t
      = ((c - x : Int) : ℚ) / 5 + ((c - x : Int) : ℚ) * (t - 1 / 5) := by ring
  have h1q : (1 : ℚ) ≤ ((c - x : Int) : ℚ) := by exact_mod_cast h1
  have h2q : ((c - x : Int) : ℚ) ≤ 62 := by exact_mod_cast h2
  have h5q : ((simG c x m : Int) : ℚ) + 1 ≤ 525 + 4 * ((c - x : Int) : ℚ) := by exact_mod_cast h5
  have h6q : (-5000 : ℚ) ≤ ((simG c x m : Int) : ℚ) := by exact_mod_cast h6
  have hε := eps_val
  refine ⟨⟨h1, ?_, h3, fun hx => ?_, ?_⟩, ?_⟩
  · rw [hmul]; linarith only [h2q, het.2]
  · -- `dl ≤ 26/1000`, and the last change of the error is 0 or 1
    have hδ : (0 : ℚ) ≤ ((ep - (c - x) : Int) : ℚ) := by exact_mod_cast (by omega : 0 ≤ ep - (c - x))
    have h4q : (-490 : ℚ) + 26 * ((ep - (c - x) : Int) : ℚ) + 1 ≤ ((simG c x m : Int) : ℚ) := by
      exact_mod_cast h4.resolve_left (by omega)
    have := mul_le_mul_of_nonneg_right hd.2 hδ
    linarith only [this, h4q, hδ, hG.1]
  · rw [hmul]; linarith only [h5q, hG.2, hd.1, het.1]
  · unfold PhiN eta
    have : (31 / 100 + (t / 50 - eps)) * ((c - x : Int) : ℚ) ≤ (31 / 100 + 1 / 200) * 62 := by
      apply mul_le_mul _ h2q (by linarith only [h1q]) (by norm_num)
      rw [hε]; linarith only [htc.2]
    linarith only [this, h6q, hG.1]

theorem ARest.of_sim {c x m ep : Int} {t I : ℚ} (ht : Tick5 t) (hep : |ep| ≤ 255)
    (hI : |I - (m : ℚ) / 5| ≤ 1 / 10 ^ 6) (h : simRest c x m ep = true) : ARest c t x I ep := by
  simp only [simRest, Bool.and_eq_true, Bool.or_eq_true, decide_eq_true_eq] at h
  obtain ⟨⟨h1, h2⟩, h3⟩ := h
  have h2q : c ≠ 0 → (-498 : ℚ) ≤ 4 * m - 25 * ep ∧ (-498 : ℚ) ≤ 4 * m := fun hc => by
    exact_mod_cast h2.resolve_left hc
  have h3q : c ≠ 255 → (4 * m - 25 * ep : ℚ) ≤ 498 ∧ (4 * m : ℚ) ≤ 498 := fun hc => by
    exact_mod_cast h3.resolve_left hc
  have hI' := abs_le.mp hI
  have hk := abs_le.mp (abs_mul_le' (show |(ep : ℚ)| ≤ 255 by exact_mod_cast hep) ht.inv_close)
  have hnow : (1 : ℚ) / 50 * I + 1 / 200 * ((0 - (ep : ℚ)) / t)
      = (4 * m - 25 * ep) / 1000 + 1 / 50 * (I - (m : ℚ) / 5)
        - 1 / 200 * ((ep : ℚ) * (1 / t - 5)) := by ring
  have hlater : (1 : ℚ) / 50 * I = 4 * m / 1000 + 1 / 50 * (I - (m : ℚ) / 5) := by ring
  have hε := eps_val
  refine ⟨h1, fun hc => ?_, fun hc => ?_, fun hc => ?_, fun hc => ?_⟩
  · rw [hnow, hε]; linarith only [(h2q hc).1, hI'.1, hk.2]
  · rw [hnow, hε]; linarith only [(h3q hc).1, hI'.2, hk.1]
  · rw [hlater, hε]; linarith only [(h2q hc).2, hI'.1]
  · rw [hlater, hε]; linarith only [(h3q hc).2, hI'.2]

def DoneReal (c : Int) (t : ℚ) (x : Int) (I : ℚ) (ep : Int) : Prop :=
  ARest c t x I ep ∨ (Qpos c t x I ep ∧ PhiN c t x I ≤ 27) ∨
    (Qneg c t x I ep ∧ PhiN (255 - c) t (255 - x) (-I) ≤ 27)

theorem DoneReal.of_sim {c x m ep : Int} {t I : ℚ} (ht : Tick5 t) (hep : |ep| ≤ 255)
    (hI : |I - (m : ℚ) / 5| ≤ 1 / 10 ^ 6) (h : simDone c x m ep = true) : DoneReal c t x I ep := by
  simp only [simDone, Bool.or_eq_true] at h
  rcases h with (h | h) | h
  · exact Or.inl (ARest.of_sim ht hep hI h)
  · exact Or.inr (Or.inl (Qpos.of_sim ht hI h))
  · refine Or.inr (Or.inr (Qpos.of_sim (m := -m) ht ?_ h))
    have : -I - ((-m : Int) : ℚ) / 5 = -(I - (m : ℚ) / 5) := by push_cast; ring
    rw [this, abs_neg]; exact hI

/-- the integral drifts from the model by at most `2^-29` a cycle (`sim_step_sound`). 500 is arbitrary:
    20 cycles are simulated, and any bound up to 536 keeps the drift below `10^-6`. -/
theorem drift_le {k : Nat} (hk : k ≤ 500) : (k : ℚ) / 2 ^ 29 ≤ 1 / 10 ^ 6 := by
  have : (k : ℚ) ≤ 500 := by exact_mod_cast hk
  rw [div_le_iff₀ (by positivity)]; norm_num; linarith

/-- `j` counts the cycles from the start of the trajectory, where the integral is exactly `m/5`. -/
theorem simOk_sound {c : Int} {t : ℚ} {X : Nat → Int} {I : Nat → ℚ} {E : Nat → Int}
    (T : ATraj c t X I E) (ht : Tick5 t) (f j : Nat) (m : Int)
    (h : simOk c f (X j) m (E j) = true) (hI : |I j - (m : ℚ) / 5| ≤ (j : ℚ) / 2 ^ 29)
    (hj : j + f ≤ 500) : ∃ i, i ≤ f ∧ DoneReal c t (X (j + i)) (I (j + i)) (E (j + i)) := by
  induction f generalizing j m with
  | zero => exact ⟨0, le_rfl, .of_sim ht (T.ep_abs j) (hI.trans (drift_le hj)) h⟩
  | succ f ih =>
    have hβ := drift_le (by omega : j ≤ 500)
    unfold simOk at h
    rw [Bool.or_eq_true, Bool.and_eq_true, Bool.or_eq_true, beq_iff_eq] at h
    rcases h with h | ⟨hA, hB⟩
    · exact ⟨0, by omega, .of_sim ht (T.ep_abs j) (hI.trans hβ) h⟩
    · obtain ⟨hcand, hJ⟩ := sim_step_sound (T.step j) ht hI hβ
      have hs : simOk c f (X (j + 1)) (m + (c - X j)) (E (j + 1)) = true := by
        rw [T.ep_succ j]
        rcases hcand with hX | hX
        · rw [hX]; exact hA
        · rcases hB with hB | hB
          · rw [hX, ← hB]; exact hA
          · rw [hX]; exact hB
      obtain ⟨i, hi, hd⟩ := ih (j + 1) _ hs (hJ.trans (by push_cast; rw [add_div])) (by omega)
      exact ⟨i + 1, by omega, by rw [show j + (i + 1) = j + 1 + i by omega]; exact hd⟩

/-- 6800: the potential is at most 27 and falls by `eta t`, about `1/250`, a cycle. -/
theorem ATraj.settle_of_done {c : Int} {t : ℚ} {X : Nat → Int} {I : Nat → ℚ} {E : Nat → Int}
    (T : ATraj c t X I E) (ht : Tick5 t) {k : Nat} (hd : DoneReal c t (X k) (I k) (E k)) :
    ∀ n, k + 6800 ≤ n → X n = c := by
  have hη : (27 : ℚ) ≤ (6800 : Nat) * eta t := by
    have := abs_le.mp ht.close
    have := eps_val
    unfold eta; push_cast; norm_num at *; linarith
  have key : ∃ j, j ≤ 6800 ∧ ARest c t (X (k + j)) (I (k + j)) (E (k + j)) := by
    rcases hd with h | ⟨h, hp⟩ | ⟨h, hp⟩
    · exact ⟨0, by omega, h⟩
    · exact T.settle_Qpos 6800 k h (hp.trans hη)
    · exact T.settle_Qneg 6800 k h (hp.trans hη)
  obtain ⟨j, hj, hr⟩ := key
  intro n hn
  obtain ⟨i, rfl⟩ : ∃ i, n = k + j + i := ⟨n - (k + j), by omega⟩
  exact ((T.rest_forever hr) i).2.1

/-! ### the exploration the kernel runs

  Only requests that start below the curve value are explored (the others are their reflections,
  `ATraj.mirror`). Write the curve value as `c = 255 - j`. In terms of the error `e = c - x` a run does
  not depend on `j` until the request would pass 255, so all `j` of a range `Jlo ≤ j < Jhi` are carried
  as ONE state `(e, m, ep)`; at the cycle whose unclamped successor error is below `-j`, that `j` leaves
  the range and goes on alone, as the range `j, j+1`, from the clamped error `-j`.

  The state is kept in `Nat` with a bias, `E = e + 256`, `P = ep + 256`, `M = m + 8192` (`|e| ≤ 255`;
  `|m| ≤ 20 · 256`), and the tests are `Nat.ble` / `Nat.beq` / `bif`: the kernel computes these and
  `+ * / -` on `Nat` literals natively, while `Int` operations and `Decidable` instances are unfolded
  step by step. `simS_sound` ties the result to `simOk`. -/

def allFrom (p : Nat → Bool) : Nat → Nat → Bool
  | _, 0 => true
  | j, n + 1 => p j && allFrom p (j + 1) n

theorem allFrom_get {p : Nat → Bool} : ∀ {n lo : Nat}, allFrom p lo n = true →
    ∀ j, lo ≤ j → j < lo + n → p j = true := by
  intro n
  induction n with
  | zero => intro lo _ j h1 h2; omega
  | succ n ih =>
    intro lo h j h1 h2
    unfold allFrom at h
    rw [Bool.and_eq_true] at h
    rcases Nat.eq_or_lt_of_le h1 with e | e
    · rw [← e]; exact h.1
    · exact ih h.2 j (by omega) (by omega)

/-- `simDone` on the biased state: the inequalities of `simRest` (`E = 256`), `simQpos` (`E > 256`) and
    the reflected `simQpos` (`E < 256`) with `e = E - 256`, `ep = P - 256`, `m = M - 8192` put in and
    every term moved to the side where it is positive. The escapes for `c = 0` and `x = 0` are left
    out (stronger test); `top`: the request is 255; `c255`: `c = 255`. -/
def doneS (top c255 : Bool) (E M P : Nat) : Bool :=
  bif Nat.beq E 256 then
    Nat.ble (25 * P + 32768) (4 * M + 6898) && Nat.ble 32270 (4 * M) &&
      (c255 || (Nat.ble (4 * M + 5902) (25 * P + 32768) && Nat.ble (4 * M) 33266))
  else bif Nat.ble 257 E then
    Nat.ble E 318 && (Nat.beq P E || Nat.beq P (E + 1)) &&
      Nat.ble (110103 + 26 * P) (330 * E + 4 * M) && Nat.ble (300 * E + 4 * M) 110092 &&
      Nat.ble 105592 (304 * E + 4 * M)
  else
    Nat.ble 194 E && (Nat.beq P E || Nat.beq (P + 1) E) &&
      (top || Nat.ble (330 * E + 4 * M) (111081 + 26 * P)) && Nat.ble 109044 (300 * E + 4 * M) &&
      Nat.ble (304 * E + 4 * M) 115592

def maxN (a b : Nat) : Nat := bif Nat.ble a b then b else a

/-- `W = simU + 329·256 + 4·8192 + 25·768 = simU + 136192 ≥ 0`, hence
    `(W + 808 + k) / 1000 = (simU + k) / 1000 + 137` (137000 = 136192 + 808) with `k = 499, 501` for
    `simLo`, `simHi`, and `E1`, `E2` are the biased unclamped successor errors, `E2 ≤ E1`. `jc` is the
    first `j` that the cycle does not clamp. The request must stay ≥ 0 (`E1 + Jhi ≤ 512`), else the test
    fails. -/
def simS : Nat → Nat → Nat → Nat → Nat → Nat → Bool
  | 0, Jlo, Jhi, E, M, P =>
    doneS (Nat.beq Jhi (Jlo + 1) && Nat.beq (E + Jlo) 256) (Nat.beq Jhi 1) E M P
  | f + 1, Jlo, Jhi, E, M, P =>
    doneS (Nat.beq Jhi (Jlo + 1) && Nat.beq (E + Jlo) 256) (Nat.beq Jhi 1) E M P ||
      (let W := 329 * E + 4 * M + 25 * (1024 - P)
       let q1 := (W + 1307) / 1000
       let q2 := (W + 1309) / 1000
       let E1 := E + 137 - q1
       let E2 := E + 137 - q2
       let jc := maxN Jlo (256 - E2)
       Nat.ble (E1 + Jhi) 512 &&
       allFrom (fun j => simS f j (j + 1) (maxN E1 (256 - j)) (M + E - 256) E &&
          (Nat.beq q1 q2 || simS f j (j + 1) (maxN E2 (256 - j)) (M + E - 256) E)) Jlo
          ((bif Nat.ble jc Jhi then jc else Jhi) - Jlo) &&
       (Nat.ble Jhi jc || (simS f jc Jhi E1 (M + E - 256) E &&
          (Nat.beq q1 q2 || simS f jc Jhi E2 (M + E - 256) E))))

/-- starting errors `lo .. lo+n-1`, each with every curve value that leaves room for it. -/
def simTab (lo n : Nat) : Bool :=
  allFrom (fun e0 => simS 20 0 (256 - e0) (e0 + 256) 8192 (e0 + 256)) lo n

theorem maxN_eq (a b : Nat) : maxN a b = max a b := by
  unfold maxN
  cases h : Nat.ble a b
  · have : ¬ a ≤ b := by rw [← Nat.ble_eq, h]; simp
    simp only [cond_false]; omega
  · have : a ≤ b := by rw [← Nat.ble_eq, h]
    simp only [cond_true]; omega

theorem doneS_sound {top c255 : Bool} {E M P : Nat} {c x m ep : Int}
    (h : doneS top c255 E M P = true) (hE : (E : Int) = c - x + 256) (hM : (M : Int) = m + 8192)
    (hP : (P : Int) = ep + 256) (htop : top = true → x = 255) (hc : c255 = true → c = 255) :
    simDone c x m ep = true := by
  simp only [doneS, Bool.cond_eq_ite, Bool.ite_eq_true_distrib, Nat.beq_eq, Nat.ble_eq,
    Bool.and_eq_true, Bool.or_eq_true] at h
  simp only [simDone, simRest, simQpos, Bool.or_eq_true, Bool.and_eq_true, decide_eq_true_eq]
  unfold simG
  split_ifs at h with h1 h2
  · left; left
    rcases h with ⟨_, h3 | _⟩
    · have := hc h3; omega
    · omega
  · left; right; omega
  · right
    rcases h with ⟨⟨⟨_, h3 | _⟩, _⟩, _⟩
    · have := htop h3; omega
    · omega

/-- a candidate of `simOk` read off the biased state (`k = 499, 501` for `simLo`, `simHi`). -/
theorem simS_succ {E M P j q : Nat} {c x m ep : Int} (k : Int) (k' : Nat) (hk : (k' : Int) = k + 808)
    (hq : (329 * E + 4 * M + 25 * (1024 - P) + k') / 1000 = q) (hc : c = 255 - (j : Int))
    (hE : (E : Int) = c - x + 256) (hM : (M : Int) = m + 8192) (hP : (P : Int) = ep + 256)
    (hP' : P ≤ 1024) (hj : j ≤ 255) (hub : E + 137 - q + j ≤ 511) :
    clamp255 (x + (simU c x m ep + k) / 1000)
      = c - (((max (E + 137 - q) (256 - j) : Nat) : Int) - 256) := by
  have hW : ((329 * E + 4 * M + 25 * (1024 - P) : Nat) : Int) = simU c x m ep + 136192 := by
    unfold simU; omega
  generalize 329 * E + 4 * M + 25 * (1024 - P) = W at *
  generalize simU c x m ep = U at *
  have hq' : (U + k) / 1000 + 137 = q := by omega
  clear hq hW hk
  rw [clamp255_eq]
  omega

/-- the state `(E, M, P)` with the range `Jlo ≤ j < Jhi` stands for the states `(x, m, ep)` of `simOk`
    at the curve values `c = 255 - j`, `x = c - (E - 256)`. The size conditions keep the `Nat`
    subtractions of `simS` from truncating: `M + E - 256` (`M` falls by at most 256 a cycle, `f` cycles
    are left), `1024 - P`, and `E ≤ 1024` because `E` is the next cycle's `P`. -/
theorem simS_sound : ∀ (f Jlo Jhi E M P : Nat), simS f Jlo Jhi E M P = true → 256 * f ≤ M →
    P ≤ 1024 → E ≤ 1024 → Jhi ≤ 256 → ∀ (j : Nat) (c x m ep : Int), Jlo ≤ j → j < Jhi →
    c = 255 - (j : Int) → (E : Int) = c - x + 256 → (M : Int) = m + 8192 → (P : Int) = ep + 256 →
    simOk c f x m ep = true := by
  intro f
  induction f with
  | zero =>
    intro Jlo Jhi E M P h _ _ _ _ j c x m ep h1 h2 hc hEq hMq hPq
    exact doneS_sound h hEq hMq hPq (by simp only [Bool.and_eq_true, Nat.beq_eq]; omega)
      (by simp only [Nat.beq_eq]; omega)
  | succ f ih =>
    intro Jlo Jhi E M P h hM hP hE hJ j c x m ep h1 h2 hc hEq hMq hPq
    unfold simS at h
    unfold simOk
    rw [Bool.or_eq_true] at h ⊢
    rcases h with h | h
    · exact Or.inl (doneS_sound h hEq hMq hPq (by simp only [Bool.and_eq_true, Nat.beq_eq]; omega)
        (by simp only [Nat.beq_eq]; omega))
    · right
      dsimp only at h
      generalize hq1 : (329 * E + 4 * M + 25 * (1024 - P) + 1307) / 1000 = q1 at h
      generalize hq2 : (329 * E + 4 * M + 25 * (1024 - P) + 1309) / 1000 = q2 at h
      simp only [Bool.and_eq_true, Bool.or_eq_true, Nat.ble_eq, Nat.beq_eq, maxN_eq] at h
      obtain ⟨⟨hub, hall⟩, hsh⟩ := h
      have hq : q1 ≤ q2 := by rw [← hq1, ← hq2]; exact Nat.div_le_div_right (by omega)
      have hlo := simS_succ 499 1307 rfl hq1 hc hEq hMq hPq hP
      have hhi := simS_succ 501 1309 rfl hq2 hc hEq hMq hPq hP
      have hE21 : E + 137 - q2 ≤ E + 137 - q1 := Nat.sub_le_sub_left hq _
      have hqE : q1 = q2 → E + 137 - q1 = E + 137 - q2 := fun e => by rw [e]
      clear hq hq1 hq2
      generalize E + 137 - q1 = E1 at *
      generalize E + 137 - q2 = E2 at *
      replace hlo := hlo (by omega) (by omega)
      replace hhi := hhi (by omega) (by omega)
      unfold simLo simHi
      rw [hlo, hhi, Bool.and_eq_true, Bool.or_eq_true, beq_iff_eq]
      have key : ∀ a b E', a ≤ j → j < b → b ≤ 256 → simS f a b E' (M + E - 256) E = true →
          E' ≤ 1024 → simOk c f (c - ((E' : Int) - 256)) (m + (c - x)) (c - x) = true :=
        fun a b E' ha hb hb' hs hE' =>
          ih a b E' (M + E - 256) E hs (by omega) hE hE' hb' j c _ _ _ ha hb hc (by omega) (by omega)
            (by omega)
      clear hlo hhi hEq hMq hPq hc ih
      obtain ⟨a, b, ha, hb, hb', s1, s2⟩ : ∃ a b, a ≤ j ∧ j < b ∧ b ≤ 256 ∧
          simS f a b (max E1 (256 - j)) (M + E - 256) E = true ∧
          (q1 = q2 ∨ simS f a b (max E2 (256 - j)) (M + E - 256) E = true) := by
        rw [Bool.cond_eq_ite] at hall
        by_cases hj : j < max Jlo (256 - E2)
        · -- the cycle clamps this `j`: it goes on alone
          have := allFrom_get hall j h1 (by split_ifs <;> omega)
          simp only [Bool.and_eq_true, Bool.or_eq_true, Nat.beq_eq] at this
          exact ⟨j, j + 1, le_rfl, by omega, by omega, this⟩
        · rcases hsh with hsh | hs
          · omega
          · rw [show max E1 (256 - j) = E1 by omega, show max E2 (256 - j) = E2 by omega]
            exact ⟨_, Jhi, by omega, h2, hJ, hs⟩
      exact ⟨key _ _ _ ha hb hb' s1 (by omega),
        s2.imp (fun e => by rw [hqE e]) fun e => key _ _ _ ha hb hb' e (by omega)⟩

end Fan2go
