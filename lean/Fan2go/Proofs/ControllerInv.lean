/-
  The controller invariant and the range of the requested value: `computedTarget` lies between the
  effective floor and the fan's maximum (this needs the arithmetic of `rescale`), hence `Inv` is
  kept by every outcome of `calculateTargetPwm`, by every event and along every run, and every
  request and every value written is inside the limits. The lemmas about `Inv` that need no
  arithmetic are in ControllerCases.lean, which has core-only users.
-/
import Fan2go.Proofs.Rescale
import Fan2go.Proofs.ControllerSteps
namespace Fan2go
open F64

theorem computedTarget_range {w : World} (hinv : Inv w) (indef cv last now : Int) :
    w.floor ≤ computedTarget indef w cv last now ∧ computedTarget indef w cv last now ≤ w.fan.getMax := by
  unfold computedTarget World.floor
  exact rescale_range indef _ _ _ (clamp255_range _) (by have := hinv.min_nonneg; have := hinv.offset_nonneg; omega)
    hinv.floor_le_max hinv.max_le

/-- C01/C02 core: the requested value is inside `[floor, max]`, also w.r.t. the floor after the cycle -/
theorem CalcCase.range {indef : Int} {w : World} {curve : Res Int} {now : Int} {w' : World}
    {t : Int} {obs : List Obs} (hinv : Inv w) (h : CalcCase indef w curve now w' (.ok t) obs) :
    w.floor ≤ t ∧ t ≤ w.fan.getMax ∧ w'.floor ≤ t := by
  cases h with
  | fail wm r hm hr => exact absurd rfl (hr t)
  | raise wm obs0 cv last hm ho hc hl hs hlt =>
    have hrg := computedTarget_range hinv indef cv last now
    rw [hm.raise_floor indef]; omega
  | plain wm obs0 cv last hm ho hc hl hs =>
    have hrg := computedTarget_range hinv indef cv last now
    rw [World.floor_congr (congrArg FanSt.getMin hm.fan) hm.offset]; omega

theorem CalcCase.inv {indef : Int} {w : World} {curve : Res Int} {now : Int} {w' : World}
    {r : Res Int} {obs : List Obs} (hinv : Inv w) (h : CalcCase indef w curve now w' r obs) : Inv w' := by
  have hfr := h.frame
  have hoff := h.offset
  refine hinv.transfer hfr.fan.getMin hfr.fan.getMax hfr.pwmMap hfr.distinct (by omega) ?_
  cases h with
  | raise wm obs0 cv last hm ho hc hl hs hlt =>
    have hrg := computedTarget_range hinv indef cv last now
    show (raiseWorld indef wm).floor ≤ _
    rw [hm.raise_floor indef, (hm.raiseFrame indef).fan.getMax]; omega
  | fail _ _ hm | atMax _ _ _ _ hm | plain _ _ _ _ hm => rw [hm.fan, hm.offset]; exact hinv.floor_le_max

theorem StepCase.inv {indef : Int} {w : World} {e : Ev} {out : StepOut}
    (hinv : Inv w) (h : StepCase indef w e out) : Inv out.w := by
  have hf := h.frame
  cases h with
  | env d => exact hinv.of_same (FanSame.refl _) rfl rfl rfl
  | poll => exact hinv.of_same hf.fan rfl rfl rfl
  | stop curve now w' r o r' hc => exact hc.inv hinv
  | set curve now w' t o r' hc =>
    have g := set_frame w' t
    exact (hc.inv hinv).of_same (by rw [g.fan]; exact FanSame.refl _) g.pwmMap g.distinct g.offset

theorem StepCase.requested {indef : Int} {w : World} {e : Ev} {out : StepOut}
    (hinv : Inv w) (h : StepCase indef w e out) {t : Int} (ht : Obs.requested t ∈ out.obs) :
    w.floor ≤ t ∧ t ≤ w.fan.getMax ∧ out.w.floor ≤ t := by
  cases h with
  | env | poll => cases ht
  | stop curve now w' r o r' hc hr => exact absurd (hc.requested_iff.1 ht) (hr t)
  | set curve now w' t0 o r' hc =>
    obtain rfl : t0 = t := Res.ok.inj (hc.requested_iff.1 ((set_obs_requested w' t0).1 ht))
    have g := set_frame w' t0
    show _ ∧ _ ∧ (ctlSetPwm (afterManual w') t0).1.floor ≤ t0
    rw [World.floor_congr (congrArg FanSt.getMin g.fan) g.offset]; exact hc.range hinv

theorem StepCase.wrote {indef : Int} {w : World} {e : Ev} {out : StepOut}
    (hinv : Inv w) (h : StepCase indef w e out) {v : Int} {ok : Bool} (hv : Obs.wrotePwm v ok ∈ out.obs) :
    ∃ t k m, Obs.requested t ∈ out.obs ∧ w.ctl.pwmMap = some m ∧ closestDistinct w.ctl t = .ok k ∧
      (∃ i, i < w.ctl.distinct.size ∧ w.ctl.distinct[i]! = k) ∧ v = mapGet m k ∧ 0 ≤ v ∧ v ≤ 255 := by
  cases h with
  | env | poll => cases hv
  | stop curve now w' r o r' hc hr => exact absurd hv (hc.no_write v ok)
  | set curve now w' t o r' hc =>
    have f := hc.frame
    obtain ⟨m, hm, hmok, hd⟩ := hinv.map_some
    obtain ⟨k, hk, hmem⟩ := hinv.mapInv.closest_ok t
    -- `setPwm` runs on `afterManual w'`, whose supported inputs and PWM map are those of `w`
    have hk' : closestDistinct (afterManual w').ctl t = .ok k :=
      (congrArg (findClosest t) f.distinct).trans hk
    have hmap : applyPwmMapping (afterManual w').ctl k = mapGet m k := by
      unfold applyPwmMapping; rw [show (afterManual w').ctl.pwmMap = some m from f.pwmMap.trans hm]
    obtain rfl : v = mapGet m k := by
      have h := (set_obs_wrote w' t (hc.no_write v ok)).1 hv
      rcases ctlSetPwm_obs _ hk' with h0 | ⟨ok', h0⟩
      · rw [h0] at h; cases h
      · rw [h0, hmap, List.mem_singleton] at h
        injection h
    exact ⟨t, k, m, (set_obs_requested w' t).2 (hc.requested_iff.2 rfl), hm, hk, hmem, rfl, mapGet_range hmok k⟩

theorem run_pre_inv (indef : Int) (w : World) (es : List Ev) (hinv : Inv w) :
    ∀ x ∈ runEvs indef w es, Inv x.1 ∧ x.2.1 ∈ es ∧ x.2.2 = stepEv indef x.1 x.2.1 :=
  run_trace indef (fun w e _ h _ => (step_cases indef w e).inv h) hinv

theorem run_final_inv (indef : Int) (w : World) (es : List Ev) (hinv : Inv w) : Inv (runFinal indef w es) :=
  (run_all indef (fun w e _ h => (step_cases indef w e).inv h) hinv).1

theorem step_floor_le (indef : Int) (w : World) (e : Ev) : w.floor ≤ (stepEv indef w e).w.floor := by
  rw [(step_cases indef w e).floor]; omega

structure LimitsOf (w0 w : World) : Prop where
  floor : w0.floor ≤ w.floor
  getMin : w.fan.getMin = w0.fan.getMin
  getMax : w.fan.getMax = w0.fan.getMax

theorem run_limits (indef : Int) (w : World) (es : List Ev) :
    LimitsOf w (runFinal indef w es) ∧ ∀ x ∈ runEvs indef w es, LimitsOf w x.1 ∧ LimitsOf w x.2.2.w :=
  run_all indef (P := LimitsOf w) (fun v e _ h =>
    ⟨Int.le_trans h.floor (step_floor_le indef v e), by rw [(step_cases indef v e).getMin, h.getMin],
      by rw [(step_cases indef v e).getMax, h.getMax]⟩)
    ⟨Int.le_refl _, rfl, rfl⟩

theorem run_requested (indef : Int) (w : World) (es : List Ev) (hinv : Inv w) :
    ∀ x ∈ runEvs indef w es, ∀ t, Obs.requested t ∈ x.2.2.obs →
      x.1.floor ≤ t ∧ t ≤ x.1.fan.getMax ∧ x.2.2.w.floor ≤ t := by
  intro x hx t ht
  obtain ⟨hi, -, hstep⟩ := run_pre_inv indef w es hinv x hx
  have hc := step_cases indef x.1 x.2.1
  rw [← hstep] at hc
  exact hc.requested hi ht

/-- with `run_requested` this is "the raise is permanent" (C02); `Pairwise` serves its index form and
    its split form alike -/
theorem run_floor_sorted (indef : Int) (w : World) (es : List Ev) :
    (runEvs indef w es).Pairwise (fun x y => x.1.floor ≤ y.1.floor) := by
  induction es generalizing w with
  | nil => exact List.Pairwise.nil
  | cons e es ih =>
    rw [runEvs_cons]
    split
    · exact List.pairwise_cons.2 ⟨fun y hy =>
        Int.le_trans (step_floor_le indef w e) ((run_limits indef _ es).2 y hy).1.floor, ih _⟩
    · exact List.pairwise_singleton _ _

/-- number of stall raises announced in a trace -/
def raisesIn (tr : List (World × Ev × StepOut)) : Nat := (tr.map (fun x => raisesOf x.2.2.obs)).sum

theorem run_offset (indef : Int) (w : World) (es : List Ev) :
    (runFinal indef w es).ctl.offset = w.ctl.offset + (raisesIn (runEvs indef w es) : Int) := by
  induction es generalizing w with
  | nil => simp [runFinal, runEvs, raisesIn]
  | cons e es ih =>
    have ho := (step_cases indef w e).offset
    rw [runFinal, runEvs_cons]
    cases hres : (stepEv indef w e).result with
    | ok u =>
      dsimp only
      rw [ih, ho]
      simp only [raisesIn, List.map_cons, List.sum_cons]
      push_cast; ring
    | err | panic =>
      dsimp only
      rw [ho]
      simp [raisesIn]

theorem run_raises_bounded (indef : Int) (w : World) (es : List Ev) (hinv : Inv w) :
    (raisesIn (runEvs indef w es) : Int) ≤ w.fan.getMax - w.floor := by
  have hfin := run_final_inv indef w es hinv
  have hl := (run_limits indef w es).1
  have h1 := hfin.floor_le_max
  rw [hl.getMin, hl.getMax, run_offset] at h1
  unfold World.floor; omega

end Fan2go
