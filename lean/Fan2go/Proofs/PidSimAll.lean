/-
  Assembly: every fresh start of the integer model with the first request x0 below the curve value c
  (one kernel-evaluated table, all 32 640 pairs) reaches the end test within 20 cycles on every
  branch; a start above c is the reflection of one below, a start at c is at rest; hence every
  abstract trajectory from a fresh start at the tick of 200 ms is at c from cycle 6820 = 20 + 6800
  (`ATraj.settle_of_done`) on.
-/
import Fan2go.Proofs.PidSim
namespace Fan2go
open F64

theorem simTab_all : simTab 1 255 = true := by decide +kernel

theorem simOk_fresh_below {c x0 : Int} (hc1 : c ≤ 255) (hx0 : 0 ≤ x0) (hlt : x0 < c) :
    simOk c 20 x0 0 (c - x0) = true := by
  obtain ⟨e0, he⟩ := Int.eq_ofNat_of_zero_le (by omega : 0 ≤ c - x0)
  obtain ⟨j, hj⟩ := Int.eq_ofNat_of_zero_le (by omega : 0 ≤ 255 - c)
  -- row `e0` of the table: biased error and previous error `e0 + 256`, biased integral 8192
  -- (`m = 0`), all curve values `255 - j` with `j < 256 - e0` (those that leave room for `e0`)
  exact simS_sound 20 0 (256 - e0) (e0 + 256) 8192 (e0 + 256)
    (allFrom_get simTab_all e0 (by omega) (by omega)) (by omega) (by omega) (by omega) (by omega)
    j c x0 0 (c - x0) (by omega) (by omega) (by omega) (by omega) (by omega) (by omega)

theorem ATraj.settle_of_simOk {c : Int} {t : ℚ} {X : Nat → Int} {I : Nat → ℚ} {E : Nat → Int}
    (T : ATraj c t X I E) (ht : Tick5 t) (hI : I 0 = 0)
    (h : simOk c 20 (X 0) 0 (E 0) = true) : ∀ n, 6820 ≤ n → X n = c := by
  obtain ⟨i, hi, hd⟩ := simOk_sound T ht 20 0 0 h (by rw [hI]; norm_num) (by norm_num)
  intro n hn
  exact T.settle_of_done ht hd n (by omega)

theorem ATraj.settle_fresh {c : Int} {t : ℚ} {X : Nat → Int} {I : Nat → ℚ} {E : Nat → Int}
    (T : ATraj c t X I E) (ht : Tick5 t) (hI : I 0 = 0) (hE : E 0 = c - X 0) :
    ∀ n, 6820 ≤ n → X n = c := by
  have hc0 := (T.step 0).c0
  have hc1 := (T.step 0).c1
  have hx0 := (T.step 0).x0
  have hx1 := (T.step 0).x1
  rcases lt_trichotomy (X 0) c with h | h | h
  · exact T.settle_of_simOk ht hI (by rw [hE]; exact simOk_fresh_below hc1 hx0 h)
  · refine T.settle_of_simOk ht hI ?_
    rw [hE, h]
    unfold simOk
    have : simDone c c 0 (c - c) = true := by simp [simDone, simRest]
    rw [this]; rfl
  · intro n hn
    have := T.mirror.settle_of_simOk ht (by simp [hI]) (by
      show simOk (255 - c) 20 (255 - X 0) 0 (-E 0) = true
      rw [hE, show -(c - X 0) = 255 - c - (255 - X 0) by ring]
      exact simOk_fresh_below (by omega) (by omega) (by omega)) n hn
    have : 255 - X n = 255 - c := this
    omega

theorem Tick5.of_200ms : Tick5 (secOf 200000000) := by
  have := (secondsOfNanos_tick (d := 200000000) (by norm_num) (by norm_num)).2.2
  refine ⟨?_⟩
  have e : ((200000000 : Int) : ℚ) / 1000000000 = 1 / 5 := by norm_num
  rw [e] at this; exact this

end Fan2go
