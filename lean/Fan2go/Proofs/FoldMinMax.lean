/-
  `List.foldl max a` and `List.foldl min a` over a linear order: what bounds the fold, that it is the
  start value or an element, that it is monotone in the list; each `min` fact is the `max` fact in the
  dual order. Two folds over one list as one fold over pairs. Before them, monotonicity of an `if`.
-/
import Mathlib.Order.MinMax
import Mathlib.Data.List.Forall2

/-- For a function glued from two pieces along a down-closed condition (`· ≤ c`, `· < c`), at two
    points `a ≤ b`: `p`, `u`, `v` are the condition and the pieces at `a`, the primed ones at `b`. -/
theorem ite_le_ite_of_le {β : Type*} [Preorder β] {p p' : Prop} [Decidable p] [Decidable p']
    {u v u' v' : β} (hp : p' → p) (hu : p' → u ≤ u') (huv : p → ¬ p' → u ≤ v') (hv : ¬ p → v ≤ v') :
    (if p then u else v) ≤ if p' then u' else v' := by
  by_cases h' : p'
  · rw [if_pos (hp h'), if_pos h']; exact hu h'
  · by_cases h : p
    · rw [if_pos h, if_neg h']; exact huv h h'
    · rw [if_neg h, if_neg h']; exact hv h

namespace List
variable {α : Type*} [LinearOrder α]

theorem foldl_max_le_iff {l : List α} {a b : α} : l.foldl max a ≤ b ↔ a ≤ b ∧ ∀ x ∈ l, x ≤ b := by
  induction l generalizing a with
  | nil => simp
  | cons x xs ih => simp [ih, and_assoc]

theorem le_foldl_min_iff {l : List α} {a b : α} : b ≤ l.foldl min a ↔ b ≤ a ∧ ∀ x ∈ l, b ≤ x :=
  foldl_max_le_iff (α := αᵒᵈ)

theorem foldl_max_mem (l : List α) (a : α) : l.foldl max a = a ∨ l.foldl max a ∈ l := by
  induction l generalizing a with
  | nil => exact .inl rfl
  | cons x xs ih =>
    rcases ih (max a x) with h | h
    · rw [List.foldl_cons, h]
      rcases max_choice a x with h' | h' <;> simp [h']
    · exact .inr (List.mem_cons_of_mem _ h)

theorem foldl_min_mem (l : List α) (a : α) : l.foldl min a = a ∨ l.foldl min a ∈ l :=
  foldl_max_mem (α := αᵒᵈ) l a

theorem foldl_min_mem_of_le {l : List α} {a : α} (h : ∃ x ∈ l, x ≤ a) : l.foldl min a ∈ l := by
  rcases foldl_min_mem l a with e | e
  · -- the fold stopped at `a`, which a member does not exceed: that member is the fold
    obtain ⟨x, hx, hxa⟩ := h
    rwa [le_antisymm ((le_foldl_min_iff.mp le_rfl).2 x hx) (hxa.trans_eq e.symm)]
  · exact e

theorem foldl_max_mem_of_le {l : List α} {a : α} (h : ∃ x ∈ l, a ≤ x) : l.foldl max a ∈ l :=
  foldl_min_mem_of_le (α := αᵒᵈ) h

theorem foldl_min_mono {vs ws : List α} (h : Forall₂ (· ≤ ·) vs ws) {a b : α} (hab : a ≤ b) :
    vs.foldl min a ≤ ws.foldl min b := by
  induction h generalizing a b with
  | nil => simpa
  | cons hvw _ ih => exact ih (min_le_min hab hvw)

theorem foldl_max_mono {vs ws : List α} (h : Forall₂ (· ≤ ·) vs ws) {a b : α} (hab : a ≤ b) :
    vs.foldl max a ≤ ws.foldl max b :=
  foldl_min_mono (α := αᵒᵈ) h.flip hab

theorem foldl_prod {β γ δ : Type*} (f : β → δ → β) (g : γ → δ → γ) (vs : List δ) (a : β) (b : γ) :
    vs.foldl (fun acc v => (f acc.1 v, g acc.2 v)) (a, b) = (vs.foldl f a, vs.foldl g b) :=
  foldl_hom₂ vs Prod.mk f g _ a b fun _ _ _ => rfl

theorem Forall₂.forall_right {α β : Type*} {R : α → β → Prop} {p : β → Prop} {l : List α} {u : List β}
    (h : Forall₂ R l u) (hp : ∀ a b, R a b → p b) : ∀ b ∈ u, p b := by
  induction h with
  | nil => simp
  | cons h _ ih => simpa using ⟨hp _ _ h, ih⟩

theorem Forall₂.forall_left {α β : Type*} {R : α → β → Prop} {p : α → Prop} {l : List α} {u : List β}
    (h : Forall₂ R l u) (hp : ∀ a b, R a b → p a) : ∀ a ∈ l, p a :=
  h.flip.forall_right fun b a => hp a b

end List
