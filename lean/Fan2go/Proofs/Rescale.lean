/-
  The two arithmetic steps of `calculateTargetPwm` that carry C01/C02/C04/C07: the clamp `clamp255`
  (controller.go:456-463) and the map `rescale` of 0..255 into the fan's PWM range
  (controller.go:472). `rescale_eq` writes `rescale` on a byte as `lo + truncRat (rescaleQ t lo hi)`,
  two binary64 roundings in ℚ; range, end points and monotonicity then come from monotone rounding,
  the identity on the range 0..255 from evaluating the 256 cases.
-/
import Fan2go.Proofs.F64Ops
import Fan2go.Model.Controller
namespace Fan2go
open F64

theorem clamp255_eq (t : Int) : clamp255 t = max 0 (min 255 t) := by
  unfold clamp255; split_ifs <;> omega

theorem clamp255_range (t : Int) : 0 ≤ clamp255 t ∧ clamp255 t ≤ 255 := by
  rw [clamp255_eq]; omega

theorem clamp255_id {t : Int} (h0 : 0 ≤ t) (h1 : t ≤ 255) : clamp255 t = t := by
  rw [clamp255_eq]; omega

theorem clamp255_monotone {t t' : Int} (h : t ≤ t') : clamp255 t ≤ clamp255 t' := by
  rw [clamp255_eq, clamp255_eq]; omega

theorem clamp255_succ_le (z : Int) : clamp255 (z + 1) ≤ clamp255 z + 1 := by
  rw [clamp255_eq, clamp255_eq]; omega

theorem clamp255_le_of_pos {z : Int} (h : 0 < clamp255 z) : clamp255 z ≤ z := by
  rw [clamp255_eq] at h ⊢; omega

theorem le_clamp255_of_lt {z : Int} (h : clamp255 z < 255) : z ≤ clamp255 z := by
  rw [clamp255_eq] at h ⊢; omega

/-- The float64 value `float64(t)/255 * (float64(hi) - float64(lo))` whose truncation `rescale`
    adds to `lo`. -/
def rescaleQ (t lo hi : Int) : ℚ := fl64 (fl64 ((t : ℚ) / 255) * ((hi - lo : Int) : ℚ))

theorem rescaleQ_mono {s t lo hi : Int} (hst : s ≤ t) (h : lo ≤ hi) :
    rescaleQ s lo hi ≤ rescaleQ t lo hi := by
  have hd : (0 : ℚ) ≤ ((hi - lo : Int) : ℚ) := by exact_mod_cast (by omega : 0 ≤ hi - lo)
  have hq : (s : ℚ) / 255 ≤ (t : ℚ) / 255 :=
    div_le_div_of_nonneg_right (by exact_mod_cast hst) (by norm_num)
  exact fl64_mono (mul_le_mul_of_nonneg_right (fl64_mono hq) hd)

theorem rescaleQ_zero (lo hi : Int) : rescaleQ 0 lo hi = 0 := by
  simp [rescaleQ, fl64_zero]

theorem rescaleQ_full {lo hi : Int} (hD : |hi - lo| ≤ 2 ^ 53) :
    rescaleQ 255 lo hi = ((hi - lo : Int) : ℚ) := by
  unfold rescaleQ
  rw [show ((255 : Int) : ℚ) / 255 = 1 by norm_num, fl64_one, one_mul, fl64_intCast _ hD]

theorem rescaleQ_range {t lo hi : Int} (h0 : 0 ≤ t) (h1 : t ≤ 255) (h : lo ≤ hi)
    (hD : |hi - lo| ≤ 2 ^ 53) : 0 ≤ rescaleQ t lo hi ∧ rescaleQ t lo hi ≤ ((hi - lo : Int) : ℚ) :=
  ⟨rescaleQ_zero lo hi ▸ rescaleQ_mono h0 h, rescaleQ_full hD ▸ rescaleQ_mono h1 h⟩

/-- Every operand and every intermediate result is finite, so neither overflow nor `indef` can show.
    The bound `2^52` on `lo`, `hi` makes `hi - lo` an integer of magnitude `≤ 2^53`, which `float64`
    holds exactly. -/
theorem rescale_eq (indef : Int) {t lo hi : Int} (h0 : 0 ≤ t) (h1 : t ≤ 255) (hlo : |lo| ≤ 2 ^ 52)
    (hhi : |hi| ≤ 2 ^ 52) : rescale indef t lo hi = lo + truncRat (rescaleQ t lo hi) := by
  have hlo' := abs_le.mp hlo
  have hhi' := abs_le.mp hhi
  have hD : |hi - lo| ≤ 2 ^ 53 := abs_le.mpr ⟨by omega, by omega⟩
  have a0 : (0 : ℚ) ≤ t := by exact_mod_cast h0
  have a1 : (t : ℚ) ≤ 255 := by exact_mod_cast h1
  obtain ⟨q0, q1⟩ := fl64_div_mem_unit a0 a1
  have hq : |(t : ℚ) / 255| ≤ 2 ^ 0 := by
    rw [abs_of_nonneg (by positivity), pow_zero, div_le_one (by norm_num)]; exact a1
  have hb : |fl64 ((t : ℚ) / 255) * ((hi - lo : Int) : ℚ)| ≤ 2 ^ 53 :=
    (abs_unit_mul_le q0 q1 _).trans (by exact_mod_cast hD)
  have hr := abs_le.mp (abs_fl64_le_two_pow 53 hb)
  unfold rescale
  rw [ofInt_byte h0 h1, ofInt_255,
    ofInt_small (hhi.trans (by norm_num)), ofInt_small (hlo.trans (by norm_num)), sub_fin_fin,
    ← Int.cast_sub, ofRat_intCast hD, div_fin_fin _ (by norm_num),
    ofRat_fin_of_abs_le_two_pow 0 hq, mul_fin_fin, ofRat_fin_of_abs_le_two_pow 53 hb,
    (toInt_fin_of_bounds indef (lo := -2 ^ 53) (hi := 2 ^ 53) (by exact_mod_cast hr.1)
      (by exact_mod_cast hr.2) (by norm_num) (by norm_num)).1]
  rfl

theorem rescale_mono_of_le (indef : Int) {s t lo hi : Int} (h0 : 0 ≤ s) (hst : s ≤ t) (h1 : t ≤ 255)
    (hlo : |lo| ≤ 2 ^ 52) (hhi : |hi| ≤ 2 ^ 52) (h : lo ≤ hi) :
    rescale indef s lo hi ≤ rescale indef t lo hi := by
  rw [rescale_eq indef h0 (by omega) hlo hhi, rescale_eq indef (by omega) h1 hlo hhi]
  have := truncRat_mono (rescaleQ_mono hst h)
  omega

theorem byte_abs_le {n : Int} (h0 : 0 ≤ n) (h1 : n ≤ 255) : |n| ≤ 2 ^ 52 :=
  abs_le.mpr ⟨by omega, by omega⟩

theorem rescale_eq_byte (indef : Int) {t lo hi : Int} (ht : In255 t) (hlo : 0 ≤ lo)
    (hle : lo ≤ hi) (hhi : hi ≤ 255) :
    rescale indef t lo hi = lo + truncRat (rescaleQ t lo hi) :=
  rescale_eq indef ht.1 ht.2 (byte_abs_le hlo (by omega)) (byte_abs_le (by omega) hhi)

theorem rescale_range (indef t lo hi : Int) (ht : 0 ≤ t ∧ t ≤ 255) (hlo : 0 ≤ lo) (hle : lo ≤ hi)
    (hhi : hi ≤ 255) : lo ≤ rescale indef t lo hi ∧ rescale indef t lo hi ≤ hi := by
  rw [rescale_eq_byte indef ht hlo hle hhi]
  obtain ⟨a, b⟩ := rescaleQ_range ht.1 ht.2 hle (abs_le.mpr ⟨by omega, by omega⟩)
  have := truncRat_nonneg a
  have := truncRat_le_of_le_intCast b
  omega

theorem rescale_zero (indef lo hi : Int) (hlo : 0 ≤ lo) (hle : lo ≤ hi) (hhi : hi ≤ 255) :
    rescale indef 0 lo hi = lo := by
  rw [rescale_eq_byte indef ⟨le_rfl, by norm_num⟩ hlo hle hhi, rescaleQ_zero, ← Int.cast_zero,
    truncRat_intCast, add_zero]

theorem rescale_full (indef lo hi : Int) (hlo : 0 ≤ lo) (hle : lo ≤ hi) (hhi : hi ≤ 255) :
    rescale indef 255 lo hi = hi := by
  rw [rescale_eq_byte indef ⟨by norm_num, le_rfl⟩ hlo hle hhi,
    rescaleQ_full (abs_le.mpr ⟨by omega, by omega⟩), truncRat_intCast]
  omega

theorem rescale_mono (indef lo hi : Int) {t t' : Int} (ht : 0 ≤ t) (htt : t ≤ t') (ht' : t' ≤ 255)
    (hlo : 0 ≤ lo) (hle : lo ≤ hi) (hhi : hi ≤ 255) :
    rescale indef t lo hi ≤ rescale indef t' lo hi :=
  rescale_mono_of_le indef ht htt ht' (byte_abs_le hlo (by omega)) (byte_abs_le (by omega) hhi) hle

theorem rescale_indef_irrel (indef indef' t lo hi : Int) (ht : 0 ≤ t ∧ t ≤ 255) (hlo : 0 ≤ lo)
    (hle : lo ≤ hi) (hhi : hi ≤ 255) : rescale indef t lo hi = rescale indef' t lo hi := by
  rw [rescale_eq_byte indef ht hlo hle hhi, rescale_eq_byte indef' ht hlo hle hhi]

/-- `t/255*255` comes back to `t` for the 256 byte values. This is luck of the divisor, not a law of
    rounding (the relative-error bound leaves twice the room the nearest neighbour of `t` allows),
    so it is checked value by value; only the two roundings of `rescaleQ` are evaluated. -/
theorem rescale_id (indef : Int) {t : Int} (h0 : 0 ≤ t) (h1 : t ≤ 255) :
    rescale indef t 0 255 = t := by
  have all : (List.range 256).all (fun t => decide (rescaleQ (t : Int) 0 255 = ((t : Int) : ℚ)))
      = true := by decide +kernel
  have h := List.all_eq_true.mp all t.toNat (List.mem_range.mpr (by omega))
  rw [Int.toNat_of_nonneg h0, decide_eq_true_eq] at h
  rw [rescale_eq indef h0 h1 (by norm_num) (by norm_num), h, truncRat_intCast, zero_add]

end Fan2go
