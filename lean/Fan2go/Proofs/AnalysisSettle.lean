/-
  `waitForFanToSettle` (Model/Analysis.lean `settle`): on integer-valued inputs the float loop is an integer
  loop; on a stable device it ends after 10 polls (RPM below the threshold) or 11 (the first difference, the
  RPM itself, has to leave the window); with threshold 0 it never ends.
-/
import Fan2go.Model.Analysis
import Fan2go.Proofs.F64Ops
import Fan2go.Proofs.FoldMinMax
namespace Fan2go.Analysis
open Fan2go F64

/-- the binary64 value of an integer, as the model writes it once `ofInt_small` has removed the rounding -/
abbrev finInt (x : Int) : F64 := fin ((x : Int) : ℚ)

/-- `rolling.Max` on integers -/
def imax : List Int → Int
  | [] => 0
  | x :: rest => rest.foldl max x

theorem windowMax_finInt (l : List Int) : windowMax (l.map finInt) = finInt (imax l) := by
  cases l with
  | nil => simp [windowMax, imax, zero]
  | cons x rest =>
    simp only [List.map_cons, windowMax, imax]
    induction rest generalizing x with
    | nil => rfl
    | cons y r ih =>
      simp only [List.map_cons, List.foldl_cons, gt_intCast]
      by_cases h : x < y
      · simp only [h, decide_true, if_true]; rw [ih y, max_eq_right (le_of_lt h)]
      · simp only [h, decide_false, Bool.false_eq_true, if_false]; rw [ih x, max_eq_left (not_lt.mp h)]

theorem imax_mem {l : List Int} (h : l ≠ []) : imax l ∈ l := by
  cases l with
  | nil => exact absurd rfl h
  | cons x rest =>
    rcases List.foldl_max_mem rest x with e | e
    · rw [imax, e]; exact List.mem_cons_self ..
    · exact List.mem_cons_of_mem _ e

theorem imax_bound {l : List Int} {B : Int} (hB : 0 ≤ B) (h : ∀ x ∈ l, |x| ≤ B) : |imax l| ≤ B := by
  by_cases hl : l = []
  · simpa [hl, imax] using hB
  · exact h _ (imax_mem hl)

/-- the loop of `waitForFanToSettle` on integers -/
def settleI (t : Int) (rd : Nat → Option Int) : Nat → Nat → List Int → Nat → Int → Int → Option Nat
  | 0, n, _, _, _, mx => if mx < t then some n else none
  | fuel + 1, n, win, off, old, mx =>
    if mx < t then some n
    else
      match rd n with
      | none => settleI t rd fuel (n + 1) win off old mx
      | some cur =>
        settleI t rd fuel (n + 1) (win.set off |cur - old|) ((off + 1) % 10) cur (imax (win.set off |cur - old|))

/-- The bound 2^50 on the readings is roomy: all that is needed is that a difference of two readings (and `2 * t`
    in `settle_sim`) stays within 2^53, where `ofInt` is exact. -/
theorem settleLoop_sim (t : Int) (rd : Nat → Option Int) (hrd : ∀ n v, rd n = some v → |v| ≤ 2 ^ 50) :
    ∀ (fuel n : Nat) (win : List Int) (off : Nat) (old mx : Int), |old| ≤ 2 ^ 50 →
      settleLoop (finInt t) rd fuel n (win.map finInt) off old (finInt mx) = settleI t rd fuel n win off old mx := by
  intro fuel
  induction fuel with
  | zero => intro n win off old mx _; simp [settleLoop, settleI, lt_intCast]
  | succ fuel ih =>
    intro n win off old mx hold
    rw [settleLoop, settleI, lt_intCast]
    by_cases hlt : mx < t
    · simp [hlt]
    · simp only [hlt, decide_false, Bool.false_eq_true, if_false]
      cases hr : rd n with
      | none => exact ih (n + 1) win off old mx hold
      | some cur =>
        have hcur := hrd n cur hr
        have hd53 : |cur - old| ≤ 2 ^ 53 := by
          rw [abs_le] at *; constructor <;> omega
        simp only
        rw [ofInt_small hd53, abs_intCast, ← List.map_set, windowMax_finInt, ceil_intCast]
        exact ih _ _ _ _ _ hcur

theorem settle_sim (t : Int) (ht : |t| ≤ 2 ^ 50) (rd : Nat → Option Int)
    (hrd : ∀ n v, rd n = some v → |v| ≤ 2 ^ 50) (fuel : Nat) :
    settle (finInt t) rd fuel = settleI t rd fuel 0 (List.replicate 10 (2 * t)) 0 0 (2 * t) := by
  unfold settle
  rw [ofInt_small (n := 2) (by norm_num), mul_intCast (i := 2) (by rw [abs_le] at *; constructor <;> omega)]
  have : List.replicate 10 (finInt (2 * t)) = (List.replicate 10 (2 * t)).map finInt := by simp
  rw [this]
  exact settleLoop_sim t rd hrd _ _ _ _ _ _ (by norm_num)

theorem settleI_poll {t r : Int} {fuel n : Nat} {win : List Int} {off : Nat} {old mx : Int} (h : ¬ mx < t) :
    settleI t (fun _ => some r) (fuel + 1) n win off old mx =
      settleI t (fun _ => some r) fuel (n + 1) (win.set off |r - old|) ((off + 1) % 10) r
        (imax (win.set off |r - old|)) := by
  rw [settleI, if_neg h]

theorem settleI_stable (t r : Int) (ht : 0 < t) (f : Nat) :
    settleI t (fun _ => some r) (f + 11) 0 (List.replicate 10 (2 * t)) 0 0 (2 * t) =
      some (if |r| < t then 10 else 11) := by
  have h0 : |r - 0| = |r| := by simp
  have h1 : |r - r| = 0 := by simp
  have ha : 0 ≤ |r| := abs_nonneg r
  generalize |r| = a at *
  -- ten polls, each with an entry `2 * t` still in the window, leave the window `[a, 0, …, 0]`
  simp (disch := omega) only [List.replicate, settleI_poll, h0, h1, List.set, imax, List.foldl, Nat.reduceAdd,
    Nat.reduceMod]
  by_cases hlt : a < t
  · rw [settleI, if_pos (by omega), if_pos hlt]
  · rw [settleI_poll (by omega)]
    cases f <;> rw [settleI, if_pos (by simpa [h1, imax] using ht), if_neg hlt]

theorem settleI_zero (rd : Nat → Option Int) :
    ∀ (fuel n : Nat) (win : List Int) (off : Nat) (old mx : Int), 0 ≤ mx → (∀ x ∈ win, 0 ≤ x) →
      settleI 0 rd fuel n win off old mx = none := by
  intro fuel
  induction fuel with
  | zero => intro n win off old mx h _; simp [settleI]; omega
  | succ fuel ih =>
    intro n win off old mx h hw
    rw [settleI, if_neg (by omega)]
    cases rd n with
    | none => exact ih _ _ _ _ _ h hw
    | some cur =>
      simp only
      have hw' : ∀ x ∈ win.set off |cur - old|, 0 ≤ x := by
        intro x hx
        rcases List.mem_or_eq_of_mem_set hx with h | h
        · exact hw x h
        · rw [h]; exact abs_nonneg _
      apply ih _ _ _ _ _ _ hw'
      by_cases hl : win.set off |cur - old| = []
      · simp [hl, imax]
      · exact hw' _ (imax_mem hl)

/-- an RPM input that cannot be read: `continue` without progress – the wait never ends -/
theorem settle_unreadable (thr : F64) (h : lt (ofInt 2 * thr) thr = false) (fuel : Nat) :
    settle thr (fun _ => none) fuel = none := by
  have key : ∀ (fuel n off : Nat) (win : List F64),
      settleLoop thr (fun _ => none) fuel n win off 0 (ofInt 2 * thr) = none := by
    intro fuel
    induction fuel with
    | zero => intro n off win; simp [settleLoop, h]
    | succ fuel ih =>
      intro n off win
      rw [settleLoop]; simp only [h, Bool.false_eq_true, if_false]; exact ih _ _ _
  exact key fuel 0 0 _

end Fan2go.Analysis
