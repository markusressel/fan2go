/-
  The aggregation `switch` of `FunctionSpeedCurve.Evaluate` (`evalFn`): closed forms over member
  values in 0..255, range, monotonicity.
-/
import Fan2go.Proofs.F64Ops
import Fan2go.Model.Curves
import Fan2go.Proofs.FoldMinMax

namespace Fan2go
open F64

def InRange (vs : List Int) : Prop := ∀ v ∈ vs, In255 v

theorem InRange.tail {v : Int} {vs : List Int} (h : InRange (v :: vs)) : InRange vs :=
  fun w hw => h w (List.mem_cons_of_mem _ hw)

theorem InRange.head {v : Int} {vs : List Int} (h : InRange (v :: vs)) : In255 v :=
  h v List.mem_cons_self

theorem InRange.sum_bounds {vs : List Int} (h : InRange vs) :
    0 ≤ vs.sum ∧ vs.sum ≤ 255 * (vs.length : Int) := by
  induction vs with
  | nil => simp
  | cons v vs ih =>
    have := ih h.tail
    have := h.head
    simp only [List.sum_cons, List.length_cons]
    push_cast
    omega

theorem wrap64_id {n : Int} (h1 : -2 ^ 63 ≤ n) (h2 : n < 2 ^ 63) : wrap64 n = n := by
  unfold wrap64; omega

theorem foldl_wrap_add {vs : List Int} (h : InRange vs) (acc : Int) (h0 : 0 ≤ acc)
    (h1 : acc + 255 * (vs.length : Int) ≤ 2 ^ 62) :
    vs.foldl (fun a b => wrap64 (a + b)) acc = acc + vs.sum := by
  induction vs generalizing acc with
  | nil => simp
  | cons v vs ih =>
    have hv := h.head
    simp only [List.length_cons] at h1
    push_cast at h1
    simp only [List.foldl_cons, List.sum_cons]
    rw [wrap64_id (by omega) (by omega), ih h.tail (acc + v) (by omega) (by omega)]
    ring

theorem foldl_wrap_sub {vs : List Int} (h : InRange vs) (acc : Int) (h0 : acc ≤ 2 ^ 62)
    (h1 : -2 ^ 62 ≤ acc - 255 * (vs.length : Int)) :
    vs.foldl (fun a b => wrap64 (a - b)) acc = acc - vs.sum := by
  induction vs generalizing acc with
  | nil => simp
  | cons v vs ih =>
    have hv := h.head
    simp only [List.length_cons] at h1
    push_cast at h1
    simp only [List.foldl_cons, List.sum_cons]
    rw [wrap64_id (by omega) (by omega), ih h.tail (acc - v) (by omega) (by omega)]
    ring

/-- no 64-bit wrap-around can happen while summing up to `2^40` PWM values: `255·2^40 < 2^48`, far
    inside the `2^62` of `foldl_wrap_add` (room for one more summand below `2^63`). The bound `2^40` is
    a choice, beyond the length of any list in memory. -/
theorem sumInts_eq {vs : List Int} (h : InRange vs) (hl : vs.length ≤ 2 ^ 40) :
    sumInts vs = vs.sum := by
  unfold sumInts
  have : (vs.length : Int) ≤ 2 ^ 40 := by exact_mod_cast hl
  rw [foldl_wrap_add h 0 (le_refl _) (by omega)]; ring

theorem InRange.foldl_min {vs : List Int} (h : InRange vs) {a : Int} (ha : In255 a) :
    In255 (vs.foldl min a) :=
  ⟨List.le_foldl_min_iff.mpr ⟨ha.1, fun v hv => (h v hv).1⟩,
    (List.le_foldl_min_iff.mp le_rfl).1.trans ha.2⟩

theorem InRange.foldl_max {vs : List Int} (h : InRange vs) {a : Int} (ha : In255 a) :
    In255 (vs.foldl max a) :=
  ⟨ha.1.trans (List.foldl_max_le_iff.mp le_rfl).1,
    List.foldl_max_le_iff.mpr ⟨ha.2, fun v hv => (h v hv).2⟩⟩

theorem foldl_fin_op {g : F64 → F64 → F64} {op : Int → Int → Int}
    (hg : ∀ a b : Int, g (fin (a : ℚ)) (fin (b : ℚ)) = fin ((op a b : Int) : ℚ))
    {vs : List Int} (h : InRange vs) (a : Int) :
    vs.foldl (fun acc v => g acc (ofInt v)) (fin (a : ℚ)) = fin ((vs.foldl op a : Int) : ℚ) := by
  induction vs generalizing a with
  | nil => simp
  | cons v vs ih =>
    have hv := h.head
    rw [List.foldl_cons, ofInt_byte hv.1 hv.2, hg, ih h.tail, List.foldl_cons]

theorem foldl_fmin {vs : List Int} (h : InRange vs) (a : Int) :
    vs.foldl (fun acc v => fmin acc (ofInt v)) (fin (a : ℚ)) = fin ((vs.foldl min a : Int) : ℚ) :=
  foldl_fin_op (fun a b => by rw [fmin_fin_fin, Int.cast_min]) h a

theorem foldl_fmax {vs : List Int} (h : InRange vs) (a : Int) :
    vs.foldl (fun acc v => fmax acc (ofInt v)) (fin (a : ℚ)) = fin ((vs.foldl max a : Int) : ℚ) :=
  foldl_fin_op (fun a b => by rw [fmax_fin_fin, Int.cast_max]) h a

theorem evalFn_sum (indef : Int) {vs : List Int} (h : InRange vs) (hl : vs.length ≤ 2 ^ 40) :
    evalFn indef "sum" vs = .ok (min 255 vs.sum) := by
  have hb := h.sum_bounds
  have : (vs.length : Int) ≤ 2 ^ 40 := by exact_mod_cast hl
  simp only [evalFn, String.reduceEq, if_true]
  rw [sumInts_eq h hl, ofInt_small (n := 255) (by norm_num),
    ofInt_small (abs_le.mpr ⟨by omega, by omega⟩), fmin_fin_fin, ← Int.cast_min,
    toInt_intCast indef (by omega) (by omega)]

theorem evalFn_difference (indef : Int) {v : Int} {vs : List Int} (h : InRange (v :: vs))
    (hl : (v :: vs).length ≤ 2 ^ 40) :
    evalFn indef "difference" (v :: vs) = .ok (max 0 (v - vs.sum)) := by
  have hb := h.tail.sum_bounds
  have hv := h.head
  have : ((vs.length + 1 : Nat) : Int) ≤ 2 ^ 40 := by exact_mod_cast hl
  simp only [evalFn, String.reduceEq, if_false, if_true]
  rw [foldl_wrap_sub h.tail v (by omega) (by omega), ofInt_small (n := 0) (by norm_num),
    ofInt_small (abs_le.mpr ⟨by omega, by omega⟩), fmax_fin_fin, ← Int.cast_max,
    toInt_intCast indef (by omega) (by omega)]

theorem evalFn_delta (indef : Int) {v : Int} {vs : List Int} (h : InRange (v :: vs)) :
    evalFn indef "delta" (v :: vs) = .ok ((v :: vs).foldl max v - (v :: vs).foldl min v) := by
  have hv := h.head
  have bM := h.foldl_max hv
  have bm := h.foldl_min hv
  simp only [evalFn, String.reduceEq, if_false, if_true]
  rw [ofInt_byte hv.1 hv.2,
    List.foldl_prod (fun x w => fmin x (ofInt w)) (fun x w => fmax x (ofInt w)), foldl_fmin h,
    foldl_fmax h]
  simp only
  rw [sub_fin_fin, ← Int.cast_sub, ofRat_intCast (abs_le.mpr ⟨by omega, by omega⟩),
    toInt_intCast indef (by omega) (by omega)]

theorem evalFn_minimum (indef : Int) {vs : List Int} (h : InRange vs) :
    evalFn indef "minimum" vs = .ok (vs.foldl min 255) := by
  simp only [evalFn, String.reduceEq, if_false, if_true]
  rw [ofInt_small (n := 255) (by norm_num), foldl_fmin h]
  have hb := h.foldl_min (a := 255) ⟨by norm_num, le_rfl⟩
  rw [toInt_intCast indef (by omega) (by omega)]

theorem evalFn_maximum (indef : Int) {vs : List Int} (h : InRange vs) :
    evalFn indef "maximum" vs = .ok (vs.foldl max 0) := by
  simp only [evalFn, String.reduceEq, if_false, if_true]
  rw [ofInt_small (n := 0) (by norm_num), foldl_fmax h]
  have hb := h.foldl_max (a := 0) ⟨le_rfl, by norm_num⟩
  rw [toInt_intCast indef (by omega) (by omega)]

theorem evalFn_average (indef : Int) {vs : List Int} (h : InRange vs) (hl : vs.length ≤ 2 ^ 40)
    (hne : vs ≠ []) : evalFn indef "average" vs = .ok (vs.sum / (vs.length : Int)) := by
  have hlen : ¬ vs.length = 0 := mt List.length_eq_zero_iff.mp hne
  simp only [evalFn, String.reduceEq, hlen, if_false, if_true]
  rw [sumInts_eq h hl, Int.tdiv_eq_ediv_of_nonneg h.sum_bounds.1]

/-- the six documented function types. -/
def IsFnType (ty : String) : Prop :=
  ty = "sum" ∨ ty = "difference" ∨ ty = "delta" ∨ ty = "minimum" ∨ ty = "maximum" ∨ ty = "average"

theorem InRange.avg_bounds {vs : List Int} (h : InRange vs) (hne : vs ≠ []) :
    In255 (vs.sum / (vs.length : Int)) := by
  have hb := h.sum_bounds
  have hpos : (0 : Int) < vs.length := by exact_mod_cast List.length_pos_iff.mpr hne
  exact ⟨Int.ediv_nonneg hb.1 hpos.le, Int.ediv_le_of_le_mul hpos hb.2⟩

theorem evalFn_range (indef : Int) {ty : String} (hty : IsFnType ty) {vs : List Int}
    (h : InRange vs) (hl : vs.length ≤ 2 ^ 40) (hne : vs ≠ []) :
    ∃ v, evalFn indef ty vs = .ok v ∧ 0 ≤ v ∧ v ≤ 255 := by
  have hb := h.sum_bounds
  rcases hty with rfl | rfl | rfl | rfl | rfl | rfl
  · exact ⟨_, evalFn_sum indef h hl, by omega, by omega⟩
  · cases vs with
    | nil => exact absurd rfl hne
    | cons v vs =>
      have := h.tail.sum_bounds
      have := h.head
      exact ⟨_, evalFn_difference indef h hl, by omega, by omega⟩
  · cases vs with
    | nil => exact absurd rfl hne
    | cons v vs =>
      have bM := h.foldl_max h.head
      have bm := h.foldl_min h.head
      have a : (v :: vs).foldl min v ≤ v := (List.le_foldl_min_iff.mp le_rfl).1
      have b : v ≤ (v :: vs).foldl max v := (List.foldl_max_le_iff.mp le_rfl).1
      exact ⟨_, evalFn_delta indef h, by omega, by omega⟩
  · exact ⟨_, evalFn_minimum indef h, h.foldl_min ⟨by norm_num, le_rfl⟩⟩
  · exact ⟨_, evalFn_maximum indef h, h.foldl_max ⟨le_rfl, by norm_num⟩⟩
  · exact ⟨_, evalFn_average indef h hl hne, h.avg_bounds hne⟩

/-- the function types that preserve monotonicity. -/
def IsMonoFnType (ty : String) : Prop :=
  ty = "sum" ∨ ty = "maximum" ∨ ty = "minimum" ∨ ty = "average"

theorem evalFn_mono (indef : Int) {ty : String} (hty : IsMonoFnType ty) {vs ws : List Int}
    (hvw : List.Forall₂ (· ≤ ·) vs ws) (hv : InRange vs) (hw : InRange ws)
    (hl : vs.length ≤ 2 ^ 40) (hne : ty = "average" → vs ≠ []) :
    ∃ a b, evalFn indef ty vs = .ok a ∧ evalFn indef ty ws = .ok b ∧ a ≤ b := by
  have hlen : vs.length = ws.length := hvw.length_eq
  have hl' : ws.length ≤ 2 ^ 40 := by omega
  rcases hty with rfl | rfl | rfl | rfl
  · refine ⟨_, _, evalFn_sum indef hv hl, evalFn_sum indef hw hl', ?_⟩
    have := hvw.sum_le_sum
    omega
  · exact ⟨_, _, evalFn_maximum indef hv, evalFn_maximum indef hw,
      List.foldl_max_mono hvw (le_refl _)⟩
  · exact ⟨_, _, evalFn_minimum indef hv, evalFn_minimum indef hw,
      List.foldl_min_mono hvw (le_refl _)⟩
  · have hne' := hne rfl
    have hne2 : ws ≠ [] := by rintro rfl; exact hne' (List.length_eq_zero_iff.mp hlen)
    refine ⟨_, _, evalFn_average indef hv hl hne', evalFn_average indef hw hl' hne2, ?_⟩
    rw [hlen]
    exact Int.ediv_le_ediv (by exact_mod_cast List.length_pos_iff.mpr hne2) hvw.sum_le_sum

def IsMinOf (vs : List Int) (m : Int) : Prop := m ∈ vs ∧ ∀ v ∈ vs, m ≤ v
def IsMaxOf (vs : List Int) (M : Int) : Prop := M ∈ vs ∧ ∀ v ∈ vs, v ≤ M

theorem foldl_min_isMinOf {vs : List Int} {a : Int} (h : ∃ v ∈ vs, v ≤ a) :
    IsMinOf vs (vs.foldl min a) :=
  ⟨List.foldl_min_mem_of_le h, (List.le_foldl_min_iff.mp le_rfl).2⟩

theorem foldl_max_isMaxOf {vs : List Int} {a : Int} (h : ∃ v ∈ vs, a ≤ v) :
    IsMaxOf vs (vs.foldl max a) :=
  ⟨List.foldl_max_mem_of_le h, (List.foldl_max_le_iff.mp le_rfl).2⟩

end Fan2go
