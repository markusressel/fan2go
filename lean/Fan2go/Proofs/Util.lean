/-
  Lemmas about `Fan2go/Model/Util.lean` that need core Lean only, no Mathlib: the result monad `Res`,
  one iteration of `interpLoop`, the look-up in a Go `map[int]int` (`mapGet`; `Go.mapGet` of
  Model/GoSem.lean is the same look-up at any value type), `util.FindClosest` (binary search for the
  nearest element of a sorted slice) and `util.ExtractKeysWithDistinctValues`.
-/
import Fan2go.Model.GoSem
namespace Fan2go

theorem Res.bind_eq_ok {α β : Type} {r : Res α} {f : α → Res β} {b : β} (h : r.bind f = .ok b) :
    ∃ a, r = .ok a ∧ f a = .ok b := by
  cases r with
  | ok a => exact ⟨a, rfl, h⟩
  | err e => cases h
  | panic s => cases h

theorem Res.bind_eq_panic {α β : Type} {r : Res α} {f : α → Res β} {s : String}
    (h : r.bind f = .panic s) : r = .panic s ∨ ∃ a, r = .ok a ∧ f a = .panic s := by
  cases r with
  | ok a => exact .inr ⟨a, rfl, h⟩
  | err e => cases h
  | panic s' => cases h; exact .inl rfl

theorem Res.ok_or_err {α : Type} {r : Res α} (h : ∀ p, r ≠ .panic p) : (∃ v, r = .ok v) ∨ ∃ e, r = .err e := by
  cases r with
  | ok v => exact .inl ⟨v, rfl⟩
  | err e => exact .inr ⟨e, rfl⟩
  | panic p => exact absurd rfl (h p)

theorem interpLoop_cons_cons (first : Bool) (p q : Int × F64) (rest : List (Int × F64))
    (input : F64) :
    interpLoop first (p :: q :: rest) input =
      if first && F64.le input (F64.ofInt p.1) then p.2
      else if F64.ge input (F64.ofInt q.1) then interpLoop false (q :: rest) input
      else if F64.feq input (F64.ofInt p.1) then p.2
      else F64.toF32 (p.2 + ratio input (F64.ofInt p.1) (F64.ofInt q.1) * (q.2 - p.2)) := rfl

theorem interpLoop_single (first : Bool) (p : Int × F64) (input : F64) :
    interpLoop first [p] input = p.2 := rfl

theorem mapGet_mem {m : List (Int × Int)} {k : Int} (h : ∃ v, (k, v) ∈ m) :
    ∃ p ∈ m, mapGet m k = p.2 := by
  obtain ⟨v, hv⟩ := h
  unfold mapGet
  cases hf : m.find? (fun p => p.1 == k) with
  | none =>
    rw [List.find?_eq_none] at hf
    have := hf _ hv
    simp at this
  | some p => exact ⟨p, List.mem_of_find?_eq_some hf, rfl⟩

theorem Go.mapGet_of_mem {α : Type} [Go.Zero α] {m : List (Int × α)} (hm : SortedMap m) {p : Int × α} (hp : p ∈ m) :
    Go.mapGet m p.1 = p.2 := by
  induction m with
  | nil => cases hp
  | cons a rest ih =>
    obtain ⟨ha, hr⟩ := List.pairwise_cons.mp hm
    unfold Go.mapGet at ih ⊢
    rw [List.find?_cons]
    rcases List.mem_cons.mp hp with rfl | hp
    · simp
    · have : a.1 < p.1 := ha _ hp
      rw [show (a.1 == p.1) = false by simp; omega]
      exact ih hr hp

theorem Go.mapGet_eq (m : List (Int × Int)) (k : Int) : Go.mapGet m k = Fan2go.mapGet m k := by
  unfold Go.mapGet Fan2go.mapGet
  cases List.find? (fun p => p.1 == k) m <;> rfl

theorem mapGet_of_mem {m : List (Int × Int)} (hs : m.Pairwise (fun a b => a.1 < b.1)) {k v : Int}
    (h : (k, v) ∈ m) : mapGet m k = v :=
  (Go.mapGet_eq m k).symm.trans (Go.mapGet_of_mem hs h)

def StrictSorted (arr : Array Int) : Prop := ∀ i j, i < j → j < arr.size → arr[i]! < arr[j]!

def Nearest (arr : Array Int) (t r : Int) : Prop :=
  (∃ i, i < arr.size ∧ arr[i]! = r) ∧ ∀ i, i < arr.size → (r - t).natAbs ≤ (arr[i]! - t).natAbs

theorem StrictSorted.le {arr : Array Int} (hs : StrictSorted arr) {i j : Nat}
    (hij : i ≤ j) (hj : j < arr.size) : arr[i]! ≤ arr[j]! := by
  rcases Nat.lt_or_eq_of_le hij with h | h
  · exact Int.le_of_lt (hs i j h hj)
  · subst h; exact Int.le_refl _

theorem getClosest_cases (a b t : Int) : getClosest a b t = a ∨ getClosest a b t = b := by
  unfold getClosest; split
  · exact .inr rfl
  · exact .inl rfl

theorem getClosest_closer {a b t x : Int} (h1 : a ≤ t) (h2 : t ≤ b) (hx : x ≤ a ∨ b ≤ x) :
    (getClosest a b t - t).natAbs ≤ (x - t).natAbs := by
  unfold getClosest; split <;> omega

theorem getClosest_tie {a b t : Int} (h : t - a = b - t) : getClosest a b t = b := by
  unfold getClosest
  rw [if_pos (by omega)]

theorem strictSorted_of_pairwise (l : List Int) (h : l.Pairwise (· < ·)) : StrictSorted l.toArray := by
  intro i j hij hj
  have hj' : j < l.length := by simpa using hj
  have hi' : i < l.length := by omega
  have := (List.pairwise_iff_getElem.mp h) i j hi' hj' hij
  simpa [hi', hj'] using this

/-- What `findClosestLoop` returns (`findClosestLoop_picks`). -/
def Picks (arr : Array Int) (t r : Int) : Prop :=
  (∃ m, m < arr.size ∧ arr[m]! = t ∧ r = t) ∨
  (∃ a, a + 1 < arr.size ∧ arr[a]! < t ∧ t < arr[a + 1]! ∧ r = getClosest arr[a]! arr[a + 1]! t)

theorem Picks.mem {arr : Array Int} {t r : Int} (h : Picks arr t r) :
    ∃ k, k < arr.size ∧ arr[k]! = r := by
  rcases h with ⟨m, hm, he, rfl⟩ | ⟨a, ha, -, -, rfl⟩
  · exact ⟨m, hm, he⟩
  · rcases getClosest_cases arr[a]! arr[a + 1]! t with e | e <;> rw [e]
    · exact ⟨a, by omega, rfl⟩
    · exact ⟨a + 1, ha, rfl⟩

theorem Picks.nearest {arr : Array Int} (hs : StrictSorted arr) {t r : Int} (h : Picks arr t r) :
    Nearest arr t r := by
  refine ⟨h.mem, fun k hk => ?_⟩
  rcases h with ⟨m, hm, he, rfl⟩ | ⟨a, ha, h1, h2, rfl⟩
  · omega
  · refine getClosest_closer (Int.le_of_lt h1) (Int.le_of_lt h2) ?_
    by_cases h : k ≤ a
    · exact .inl (hs.le h (by omega))
    · exact .inr (hs.le (by omega) hk)

theorem StrictSorted.lt_of_lt {arr : Array Int} (hs : StrictSorted arr) {x y : Nat}
    (hx : x < arr.size) (h : arr[x]! < arr[y]!) : x < y :=
  Nat.lt_of_not_le fun hyx => Int.not_le.mpr h (hs.le hyx hx)

/-- No sortedness is needed. The invariant is pointwise: the element left of the window is `< t`, the
    one at its right end is `> t`; together with `arr[0] < t < arr[size-1]` it keeps the window
    non-empty, so the `else arr[mid]` fall-through is never reached. -/
theorem findClosestLoop_picks {arr : Array Int} {t : Int}
    (h0 : arr[0]! < t) (hN : t < arr[arr.size - 1]!) (i j mid : Nat) (hij : i < j) (hjs : j ≤ arr.size)
    (hlo : i = 0 ∨ arr[i - 1]! < t) (hhi : j = arr.size ∨ t < arr[j]!) :
    Picks arr t (findClosestLoop arr t i j mid) := by
  -- the branches of `findClosestLoop` in its order: hit; left neighbour brackets `t`; go left;
  -- right neighbour brackets `t`; go right; empty window
  fun_induction findClosestLoop arr t i j mid with
  | case1 i j _ hij m hm => exact .inl ⟨m, by omega, hm, hm⟩
  | case2 i j _ hij m _ hlt hc =>
    have hm : m < arr.size := by omega
    obtain ⟨a, e⟩ : ∃ a, m = a + 1 := ⟨m - 1, (Nat.sub_add_cancel hc.1).symm⟩
    rw [e, Nat.add_sub_cancel] at hc ⊢
    exact .inr ⟨a, e ▸ hm, hc.2, e ▸ hlt, rfl⟩
  | case3 i j _ hij m _ hlt hc ih =>
    have hm : i ≤ m ∧ m < j := by omega
    refine ih (Nat.lt_of_le_of_ne hm.1 fun e => ?_) (Nat.le_trans (Nat.le_of_lt hm.2) hjs) hlo
      (.inr hlt)
    -- `m = i`: the element left of the window is `< t`, so the neighbour test would have fired
    rcases hlo with rfl | hlo
    · exact Int.lt_asymm h0 (e ▸ hlt)
    · exact hc ⟨Nat.pos_of_ne_zero fun z => Int.lt_asymm h0 (z ▸ hlt), e ▸ hlo⟩
  | case4 i j _ hij m hne hlt hc =>
    exact .inr ⟨m, Nat.add_lt_of_lt_sub hc.1, Int.lt_iff_le_and_ne.mpr ⟨Int.not_lt.mp hlt, hne⟩,
      hc.2, rfl⟩
  | case5 i j _ hij m hne hlt hc ih =>
    have hm : i ≤ m ∧ m < j := by omega
    have hgt : arr[m]! < t := Int.lt_iff_le_and_ne.mpr ⟨Int.not_lt.mp hlt, hne⟩
    refine ih (Nat.lt_of_le_of_ne hm.2 fun e => ?_) hjs (.inr hgt) hhi
    -- `m + 1 = j`: the element at the right end is `> t`, so the neighbour test would have fired
    by_cases hj : j = arr.size
    · rw [show arr.size - 1 = m by omega] at hN; exact Int.lt_asymm hN hgt
    · exact hc ⟨by omega, e ▸ hhi.resolve_left hj⟩
  | case6 => contradiction

/-- in a strictly sorted array the bracketing pair is unique, so `Picks` determines the result -/
theorem Picks.eq_of_between {arr : Array Int} (hs : StrictSorted arr) {t r : Int} {a : Nat}
    (h : Picks arr t r) (ha : a + 1 < arr.size) (h1 : arr[a]! < t) (h2 : t < arr[a + 1]!) :
    r = getClosest arr[a]! arr[a + 1]! t := by
  have ha' : a < arr.size := Nat.lt_of_succ_lt ha
  rcases h with ⟨m, hm, rfl, -⟩ | ⟨b, hb, hb1, hb2, rfl⟩
  · have := hs.lt_of_lt ha' h1
    have := hs.lt_of_lt hm h2
    omega
  · have := hs.lt_of_lt (Nat.lt_of_succ_lt hb) (Int.lt_trans hb1 h2)
    have := hs.lt_of_lt ha' (Int.lt_trans h1 hb2)
    obtain rfl : b = a := by omega
    rfl

theorem findClosest_empty (t : Int) : findClosest t #[] = .panic "index-out-of-range" := by
  simp [findClosest]

theorem findClosest_low {arr : Array Int} {t : Int} (hne : arr.size ≠ 0) (h : t ≤ arr[0]!) :
    findClosest t arr = .ok arr[0]! := by
  unfold findClosest
  rw [if_neg hne, if_pos h]

theorem findClosest_high {arr : Array Int} {t : Int} (hne : arr.size ≠ 0) (h1 : ¬ t ≤ arr[0]!)
    (h : t ≥ arr[arr.size - 1]!) : findClosest t arr = .ok arr[arr.size - 1]! := by
  unfold findClosest
  rw [if_neg hne, if_neg h1, if_pos h]

theorem findClosest_mid {arr : Array Int} {t : Int} (hne : arr.size ≠ 0) (h1 : ¬ t ≤ arr[0]!)
    (h : ¬ t ≥ arr[arr.size - 1]!) :
    findClosest t arr = .ok (findClosestLoop arr t 0 arr.size 0) := by
  unfold findClosest
  rw [if_neg hne, if_neg h1, if_neg h]

theorem findClosest_picks {arr : Array Int} {t : Int} (hne : arr.size ≠ 0)
    (h1 : ¬ t ≤ arr[0]!) (h2 : ¬ t ≥ arr[arr.size - 1]!) :
    ∃ r, findClosest t arr = .ok r ∧ Picks arr t r :=
  ⟨_, findClosest_mid hne h1 h2, findClosestLoop_picks (by omega) (by omega) 0 arr.size 0 (by omega)
    (Nat.le_refl _) (.inl rfl) (.inl rfl)⟩

theorem findClosest_between {arr : Array Int} (hs : StrictSorted arr) {t : Int} {a : Nat}
    (ha : a + 1 < arr.size) (h1 : arr[a]! < t) (h2 : t < arr[a + 1]!) :
    findClosest t arr = .ok (getClosest arr[a]! arr[a + 1]! t) := by
  have hlo := hs.le (Nat.zero_le a) (Nat.lt_of_succ_lt ha)
  have hhi := hs.le (show a + 1 ≤ arr.size - 1 by omega) (by omega)
  have hne : arr.size ≠ 0 := by omega
  have h1' : ¬ t ≤ arr[0]! := by omega
  have h2' : ¬ t ≥ arr[arr.size - 1]! := by omega
  obtain ⟨r, e, hp⟩ := findClosest_picks hne h1' h2'
  rw [e, hp.eq_of_between hs ha h1 h2]

theorem findClosest_nearest (arr : Array Int) (t : Int) (hne : arr.size ≠ 0)
    (hs : StrictSorted arr) : ∃ r, findClosest t arr = .ok r ∧ Nearest arr t r := by
  by_cases h1 : t ≤ arr[0]!
  · exact ⟨_, findClosest_low hne h1, ⟨0, by omega, rfl⟩, fun k hk => by
      have := hs.le (Nat.zero_le k) hk; omega⟩
  · by_cases h2 : t ≥ arr[arr.size - 1]!
    · exact ⟨_, findClosest_high hne h1 h2, ⟨arr.size - 1, by omega, rfl⟩, fun k hk => by
        have := hs.le (show k ≤ arr.size - 1 by omega) (by omega); omega⟩
    · exact (findClosest_picks hne h1 h2).imp fun _ h => ⟨h.1, h.2.nearest hs⟩

theorem findClosest_mem (arr : Array Int) (t : Int) (hne : arr.size ≠ 0) :
    ∃ r, findClosest t arr = .ok r ∧ ∃ i, i < arr.size ∧ arr[i]! = r := by
  by_cases h1 : t ≤ arr[0]!
  · exact ⟨_, findClosest_low hne h1, 0, by omega, rfl⟩
  · by_cases h2 : t ≥ arr[arr.size - 1]!
    · exact ⟨_, findClosest_high hne h1 h2, arr.size - 1, by omega, rfl⟩
    · exact (findClosest_picks hne h1 h2).imp fun _ h => ⟨h.1, h.2.mem⟩

theorem findClosest_ok (arr : Array Int) (t : Int) (hne : arr.size ≠ 0) :
    ∃ r, findClosest t arr = .ok r :=
  let ⟨r, h, _⟩ := findClosest_mem arr t hne; ⟨r, h⟩

theorem findClosest_ne_err (arr : Array Int) (t : Int) (e : String) : findClosest t arr ≠ .err e := by
  by_cases h : arr.size = 0
  · rw [Array.eq_empty_of_size_eq_zero h, findClosest_empty]; nofun
  · obtain ⟨k, hk⟩ := findClosest_ok arr t h
    rw [hk]; nofun

theorem findClosest_exact (arr : Array Int) (hne : arr.size ≠ 0) (hs : StrictSorted arr)
    (i : Nat) (hi : i < arr.size) : findClosest arr[i]! arr = .ok arr[i]! := by
  obtain ⟨r, hr, -, hn⟩ := findClosest_nearest arr arr[i]! hne hs
  have := hn i hi
  have : r = arr[i]! := by omega
  rw [hr, this]

theorem findClosest_of_mem {l : List Int} (h : l.Pairwise (· < ·)) {k : Int} (hk : k ∈ l) :
    findClosest k l.toArray = .ok k := by
  obtain ⟨i, hi, rfl⟩ := List.mem_iff_getElem.mp hk
  have hne : l.toArray.size ≠ 0 := by simp; intro h0; subst h0; simp at hi
  have := findClosest_exact l.toArray hne (strictSorted_of_pairwise l h) i (by simpa using hi)
  have e1 : l.toArray[i]! = l[i] := by simp [hi]
  rwa [e1] at this

theorem Nearest.mono {arr : Array Int} {t t' r r' : Int} (h : t < t') (hn : Nearest arr t r)
    (hn' : Nearest arr t' r') : r ≤ r' := by
  obtain ⟨⟨a, ha, rfl⟩, hn⟩ := hn
  obtain ⟨⟨b, hb, rfl⟩, hn'⟩ := hn'
  have := hn b hb
  have := hn' a ha
  omega

/-- Monotone in the target (this includes the equidistant tie-break: by determinism the same
    target always picks the same neighbour, and distinct targets cannot cross). -/
theorem findClosest_mono (arr : Array Int) (hne : arr.size ≠ 0) (hs : StrictSorted arr)
    {t t' : Int} (h : t ≤ t') {r r' : Int}
    (h1 : findClosest t arr = .ok r) (h2 : findClosest t' arr = .ok r') : r ≤ r' := by
  rcases Int.lt_or_eq_of_le h with hlt | rfl
  · obtain ⟨_, e, hn⟩ := findClosest_nearest arr t hne hs
    obtain ⟨_, e', hn'⟩ := findClosest_nearest arr t' hne hs
    cases h1.symm.trans e; cases h2.symm.trans e'
    exact hn.mono hlt hn'
  · cases h1.symm.trans h2; exact Int.le_refl _

/-- Tie-break at the `findClosest` level: a target exactly half-way between two adjacent elements
    resolves to the upper one. -/
theorem findClosest_tie (arr : Array Int) (hs : StrictSorted arr) (t : Int) (a : Nat)
    (ha : a + 1 < arr.size) (h : t - arr[a]! = arr[a + 1]! - t) :
    findClosest t arr = .ok arr[a + 1]! := by
  have hlt := hs a (a + 1) (by omega) ha
  rw [findClosest_between hs ha (by omega) (by omega), getClosest_tie h]

/-- After processing an entry `(k, v)` the loop state `lastDistinctOutput` is always `v`. -/
theorem extractKeysAux_cons (last k v : Int) (rest : List (Int × Int)) :
    extractKeysAux last ((k, v) :: rest) =
      (if last = -1 ∨ last ≠ v then [k] else []) ++ extractKeysAux v rest := by
  rw [extractKeysAux]
  split
  · rfl
  · next h =>
    have : last = v := by omega
    subst this; rfl

theorem extractKeysAux_sublist (last : Int) (m : List (Int × Int)) :
    (extractKeysAux last m).Sublist (m.map Prod.fst) := by
  induction m generalizing last with
  | nil => simp [extractKeysAux]
  | cons p rest ih =>
    obtain ⟨k, v⟩ := p
    rw [extractKeysAux_cons]
    split
    · simpa using (ih v)
    · simpa using (ih v).cons k

theorem extractKeysAux_append_cons (last : Int) (pre : List (Int × Int)) (k0 v0 : Int)
    (rest : List (Int × Int)) :
    extractKeysAux last (pre ++ (k0, v0) :: rest) =
      extractKeysAux last (pre ++ [(k0, v0)]) ++ extractKeysAux v0 rest := by
  induction pre generalizing last with
  | nil => simp [extractKeysAux_cons, extractKeysAux]
  | cons p pre ih =>
    obtain ⟨k, v⟩ := p
    rw [List.cons_append, List.cons_append, extractKeysAux_cons, extractKeysAux_cons, ih v,
      List.append_assoc]

theorem extractKeys_sorted (m : List (Int × Int)) (hk : m.Pairwise (fun a b => a.1 < b.1)) :
    (extractKeys m).Pairwise (· < ·) := by
  have : (m.map Prod.fst).Pairwise (· < ·) := by
    rw [List.pairwise_map]; exact hk
  exact this.sublist (extractKeysAux_sublist _ m)

theorem mem_extractKeysAux {last k : Int} {m : List (Int × Int)} (hk : k ∈ extractKeysAux last m) :
    ∃ v, (k, v) ∈ m := by
  obtain ⟨⟨k', v⟩, hm, rfl⟩ := List.mem_map.mp ((extractKeysAux_sublist last m).subset hk)
  exact ⟨v, hm⟩

theorem extractKeys_sub (m : List (Int × Int)) : ∀ k ∈ extractKeys m, ∃ v, (k, v) ∈ m :=
  fun _ => mem_extractKeysAux

theorem extractKeys_cons (k v : Int) (rest : List (Int × Int)) :
    extractKeys ((k, v) :: rest) = k :: extractKeysAux v rest := by
  unfold extractKeys
  rw [extractKeysAux_cons]
  simp

theorem extractKeys_head? (m : List (Int × Int)) :
    (extractKeys m).head? = m.head?.map Prod.fst := by
  cases m with
  | nil => rfl
  | cons p rest => obtain ⟨k, v⟩ := p; rw [extractKeys_cons]; rfl

theorem extractKeys_ne_nil (m : List (Int × Int)) : m ≠ [] → extractKeys m ≠ [] := by
  intro h
  cases m with
  | nil => exact absurd rfl h
  | cons p rest => obtain ⟨k, v⟩ := p; rw [extractKeys_cons]; exact List.cons_ne_nil _ _

theorem extractKeys_toArray_size_ne (m : List (Int × Int)) (h : m ≠ []) :
    (extractKeys m).toArray.size ≠ 0 := by
  rw [List.size_toArray]
  exact fun h0 => extractKeys_ne_nil m h (List.length_eq_zero_iff.mp h0)

theorem extractKeys_strictSorted (m : List (Int × Int)) (hk : m.Pairwise (fun a b => a.1 < b.1)) :
    StrictSorted (extractKeys m).toArray :=
  strictSorted_of_pairwise _ (extractKeys_sorted m hk)

/-- Run detection: a non-first key is extracted iff its value differs from the previous entry's value
    (keys strictly increasing, values never the sentinel `-1`). -/
theorem extractKeys_runs (m pre post : List (Int × Int)) (k0 v0 k v : Int)
    (hk : m.Pairwise (fun a b => a.1 < b.1)) (hv : ∀ p ∈ m, p.2 ≠ -1)
    (hm : m = pre ++ [(k0, v0), (k, v)] ++ post) :
    (k ∈ extractKeys m ↔ v ≠ v0) := by
  have hm' : m = (pre ++ [(k0, v0)]) ++ (k, v) :: post := by simp [hm]
  subst hm'
  have hv0 : v0 ≠ -1 := hv (k0, v0) (by simp)
  obtain ⟨-, hk2, hk3⟩ := List.pairwise_append.mp hk
  have n1 : k ∉ extractKeysAux (-1) (pre ++ [(k0, v0)]) := fun h =>
    let ⟨_, hp⟩ := mem_extractKeysAux h; Int.lt_irrefl k (hk3 _ hp (k, v) (by simp))
  have n2 : k ∉ extractKeysAux v post := fun h =>
    let ⟨_, hp⟩ := mem_extractKeysAux h; Int.lt_irrefl k ((List.pairwise_cons.mp hk2).1 _ hp)
  unfold extractKeys
  rw [List.append_assoc, List.singleton_append, extractKeysAux_append_cons, extractKeysAux_cons]
  simp only [List.mem_append, n1, n2, false_or, or_false]
  constructor
  · intro h e; split at h
    · omega
    · cases h
  · intro h; rw [if_pos (.inr fun e => h e.symm)]; exact List.mem_singleton_self k

#print axioms findClosest_nearest
#print axioms findClosest_mem
#print axioms findClosest_exact
#print axioms findClosest_low
#print axioms findClosest_high
#print axioms findClosest_empty
#print axioms findClosest_mono
#print axioms findClosest_tie
#print axioms extractKeys_sorted
#print axioms extractKeys_sub
#print axioms extractKeys_ne_nil
#print axioms extractKeys_head?
#print axioms extractKeys_runs

end Fan2go
