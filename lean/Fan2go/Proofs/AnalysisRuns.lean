/-
  What a first analysis stores, on top of the equations of `Proofs/Analysis.lean`: the swept map and the measured
  curve `sweptCurve` (`Swept`), and the limits the next `Run` derives from that curve – for any device, and for
  the harness's (`harnessPhys`: quantiser `q`, rotation from register value `spinAt` on, 10 RPM per step).
-/
import Fan2go.Proofs.Analysis
namespace Fan2go.Analysis
open Fan2go Fan2go.Startup F64

/-- what is assumed of the device: an idempotent response (all that this file uses) that stays inside 0..255
    (for `MapOk` of the swept map, Props/C15b.lean) -/
structure Phys.Nice (ph : Phys) : Prop where
  idem : ∀ v, ph.resp (ph.resp v) = ph.resp v
  range : ∀ v, 0 ≤ v → v ≤ 255 → 0 ≤ ph.resp v ∧ ph.resp v ≤ 255

theorem harnessPhys_nice (q s : Int) : (harnessPhys q s).Nice :=
  ⟨fun v => quantResp_idem q v, fun v h0 h1 => by
    have := quantResp_range q h0
    exact ⟨this.1, by simp only [harnessPhys]; omega⟩⟩

/-- the RPM curve a measurement over the swept map of the device records -/
def sweptCurve (ph : Phys) : List (Int × F64) :=
  (extractKeys (sweptMap ph.resp)).map fun k => (k, ofInt (ph.rpmOf (ph.resp k)))

theorem sweptCurve_ne_nil (ph : Phys) : sweptCurve ph ≠ [] := by
  unfold sweptCurve
  simp only [ne_eq, List.map_eq_nil_iff]
  exact extractKeys_ne_nil _ (sweptMap_ne_nil _)

theorem measure_swept (ph : Phys) (hn : ph.Nice) (cfg : FanCfg) (fan : FanSt) (hpr : cfg.pwmRead = true)
    (c : CtlSt) (r : Regs) (hm : c.pwmMap = some (.swept, sweptMap ph.resp))
    (hd : c.distinct = extractKeys (sweptMap ph.resp)) (hr : ph.Steady r) :
    let o := measureLoop ph cfg fan c.distinct c r []
    o.res = .ok () ∧ o.data = sweptCurve ph ∧ o.ctl.pwmMap = c.pwmMap ∧ o.ctl.distinct = c.distinct := by
  obtain ⟨e1, e2, _⟩ := measureLoop_targets ph cfg fan .swept _ (sweptMap_sorted ph.resp) c hm hd r
  obtain ⟨l, e4⟩ := measureLoop_ctl ph cfg fan c.distinct c r []
  refine ⟨e1, ?_, by rw [e4], by rw [e4]⟩
  -- on a target `k` the map gives `resp k`, which the device reads back: every target is recorded
  have hget : ∀ k ∈ extractKeys (sweptMap ph.resp), mapGet (sweptMap ph.resp) k = ph.resp k := fun k hk =>
    mapGet_sweptMap _ (extractKeys_sweptMap_range _ k hk).1 (extractKeys_sweptMap_range _ k hk).2
  rw [e2, hpr, measSpec_all ph _ hn.idem _ r hr fun k hk => by rw [hget k hk]; exact hn.idem k]
  exact List.map_congr_left fun k hk => by rw [hget k hk]

/-- what a first analysis leaves: the swept map and the measured curve stored, the map and its distinct targets in
    the controller -/
structure Swept (ph : Phys) (o : DOut) : Prop where
  ok : o.ok = true
  crash : o.crash = none
  map : o.store.map = some (.swept, sweptMap ph.resp)
  rpm : o.store.rpm = some (sweptCurve ph)
  ctlMap : o.ctl.pwmMap = some (.swept, sweptMap ph.resp)
  distinct : o.ctl.distinct = extractKeys (sweptMap ph.resp)

theorem runInitD_swept (indef : Int) (ph : Phys) (hn : ph.Nice) (cfg : FanCfg) (hk : cfg.kind = .hwmon)
    (hr : cfg.hasRpm = true) (hpr : cfg.pwmRead = true) (hcm : cfg.cfgMap = none)
    (fan : FanSt) (hfk : fan.kind = .hwmon) (c : CtlSt) (hc : c.pwmMap = none)
    (st : DStore) (hst : st.map = none) (r : Regs) :
    let o := runInitD indef ph cfg fan c st r
    Swept ph o ∧ o.devOk = true ∧ o.fan = attachOk indef fan (sweptCurve ph) := by
  obtain ⟨e1, e2, e3, e4⟩ := measure_swept ph hn cfg fan hpr
    (updateDistinct { c with pwmMap := some (MapSrc.swept, sweptMap ph.resp) }) _ rfl rfl
    ((ph.steady_write hn.idem _ _).trySetManual cfg)
  have hcase := runInitD_cases indef ph cfg fan c st r (lockedD_swept indef ph cfg fan c st r hpr hcm hc hst) rfl
  have hatt := attach_hwmon_nonempty indef fan hfk _ (sweptCurve_ne_nil ph)
  rw [e2] at hcase
  -- the measurement delivers `sweptCurve`, which is not empty: the curve is attached
  rcases hcase with ⟨h, -⟩ | ⟨-, -, fan', ha, ho⟩ | ⟨-, hno, -⟩
  · rw [hr] at h; cases h
  · obtain rfl : attachOk indef fan (sweptCurve ph) = fan' := congrArg Prod.fst (hatt.symm.trans ha)
    rw [ho]
    exact ⟨⟨rfl, rfl, rfl, by rw [curveOf_hwmon hk, attachOk_eq], e3, e4⟩, by simp [DOut.devOk], rfl⟩
  · exact absurd (by rw [hatt]) (hno e1)

theorem initD_swept (indef : Int) (ph : Phys) (hn : ph.Nice) (cfg : FanCfg) (hk : cfg.kind = .hwmon)
    (hr : cfg.hasRpm = true) (hpr : cfg.pwmRead = true) (hcm : cfg.cfgMap = none) (r : Regs) :
    Swept ph (initD indef ph cfg r) ∧ (initD indef ph cfg r).devOk = true := by
  obtain ⟨S, hdev, -⟩ :=
    runInitD_swept indef ph hn cfg hk hr hpr hcm cfg.newFan (newFan_kind_hwmon cfg hk) {} rfl {} rfl r
  exact ⟨⟨S.ok, S.crash, S.map, S.rpm, S.ctlMap, S.distinct⟩, by simpa [initD, DOut.devOk] using hdev⟩

theorem startD_swept (indef : Int) (ph : Phys) (hn : ph.Nice) (cfg : FanCfg) (hk : cfg.kind = .hwmon)
    (hr : cfg.hasRpm = true) (hpr : cfg.pwmRead = true) (hcm : cfg.cfgMap = none)
    (st : DStore) (hsr : st.rpm = none) (hsm : st.map = none) (r : Regs) :
    Swept ph (startD indef ph cfg st r) := by
  rw [startD_hwmon indef ph cfg r hsr hk]
  obtain ⟨S, -, hfan⟩ :=
    runInitD_swept indef ph hn cfg hk hr hpr hcm cfg.newFan (newFan_kind_hwmon cfg hk) (ctl0 cfg r) rfl st hsm r
  generalize runInitD indef ph cfg cfg.newFan (ctl0 cfg r) st r = o at S hfan
  have hfk : o.fan.kind = .hwmon := by
    rw [hfan, attachOk_eq]; exact newFan_kind_hwmon cfg hk
  simp only [S.ok, if_true]
  rw [runTailD_attached indef ph cfg _ _ _ S.rpm (attach_hwmon_nonempty indef o.fan hfk _ (sweptCurve_ne_nil ph)),
    lockedD_stored indef ph _ _ _ hcm S.map]
  exact ⟨rfl, rfl, S.map, S.rpm, rfl, rfl⟩

theorem sweptCurve_sorted (ph : Phys) : KeysSorted (sweptCurve ph) := by
  unfold KeysSorted sweptCurve
  rw [List.pairwise_map]
  exact extractKeys_sorted _ (sweptMap_sorted ph.resp)

theorem mem_sweptCurve {ph : Phys} {p : Int × F64} :
    p ∈ sweptCurve ph ↔ p.1 ∈ extractKeys (sweptMap ph.resp) ∧ p.2 = ofInt (ph.rpmOf (ph.resp p.1)) := by
  unfold sweptCurve
  simp only [List.mem_map]
  constructor
  · rintro ⟨k, hk, rfl⟩; exact ⟨hk, rfl⟩
  · rintro ⟨h1, h2⟩; exact ⟨p.1, h1, by rw [← h2]⟩

theorem sweptCurve_le255 (ph : Phys) : ∀ p ∈ sweptCurve ph, p.1 ≤ 255 := fun _ hp =>
  (extractKeys_sweptMap_range _ _ (mem_sweptCurve.mp hp).1).2

/-- within 2^53 `ofInt` stores the RPM exactly: the curve holds the readings themselves, and `rpmOf` gives them
    back -/
def Phys.RpmExact (ph : Phys) : Prop := ∀ k, 0 ≤ k → k ≤ 255 → |ph.rpmOf (ph.resp k)| ≤ 2 ^ 53

theorem rpmOf_sweptCurve (indef : Int) (ph : Phys) (hb : ph.RpmExact) {p : Int × F64}
    (hp : p ∈ sweptCurve ph) : rpmOf indef p = ph.rpmOf (ph.resp p.1) := by
  unfold rpmOf
  obtain ⟨k0, k1⟩ := extractKeys_sweptMap_range _ _ (mem_sweptCurve.mp hp).1
  rw [(mem_sweptCurve.mp hp).2, ofInt_small (hb _ k0 k1)]
  have := abs_le.mp (hb _ k0 k1)
  exact toInt_intCast indef (by omega) (by omega)

theorem forall_sweptCurve (indef : Int) {ph : Phys} (hb : ph.RpmExact) {P : Int → Int → Prop} :
    (∀ p ∈ sweptCurve ph, P p.1 (rpmOf indef p)) ↔
      ∀ k ∈ extractKeys (sweptMap ph.resp), P k (ph.rpmOf (ph.resp k)) := by
  constructor
  · intro h k hk
    have hp : (k, ofInt (ph.rpmOf (ph.resp k))) ∈ sweptCurve ph := mem_sweptCurve.mpr ⟨hk, rfl⟩
    have := h _ hp
    rwa [rpmOf_sweptCurve indef ph hb hp] at this
  · intro h p hp
    rw [rpmOf_sweptCurve indef ph hb hp]
    exact h _ (mem_sweptCurve.mp hp).1

theorem sweptCurve_rotates (indef : Int) {ph : Phys} (hb : ph.RpmExact)
    (h : ∃ k ∈ extractKeys (sweptMap ph.resp), 0 < ph.rpmOf (ph.resp k)) :
    ∃ p ∈ sweptCurve ph, 0 < rpmOf indef p := by
  obtain ⟨k, hk, hpos⟩ := h
  have hp : (k, ofInt (ph.rpmOf (ph.resp k))) ∈ sweptCurve ph := mem_sweptCurve.mpr ⟨hk, rfl⟩
  exact ⟨_, hp, by rw [rpmOf_sweptCurve indef ph hb hp]; exact hpos⟩

theorem sweptCurve_specStart (indef : Int) (ph : Phys) (hb : ph.RpmExact)
    (h : ∃ k ∈ extractKeys (sweptMap ph.resp), 0 < ph.rpmOf (ph.resp k)) :
    specStart indef (sweptCurve ph) ∈ extractKeys (sweptMap ph.resp) ∧
    0 < ph.rpmOf (ph.resp (specStart indef (sweptCurve ph))) ∧
    ∀ k ∈ extractKeys (sweptMap ph.resp), 0 < ph.rpmOf (ph.resp k) → specStart indef (sweptCurve ph) ≤ k := by
  obtain ⟨p, hp, e, hpos, hlow⟩ := specStart_lowest indef (sweptCurve_sorted ph) (sweptCurve_rotates indef hb h)
  rw [rpmOf_sweptCurve indef ph hb hp, e] at hpos
  exact ⟨e ▸ (mem_sweptCurve.mp hp).1, hpos,
    (forall_sweptCurve indef hb (P := fun k v => 0 < v → specStart indef (sweptCurve ph) ≤ k)).mp hlow⟩

theorem sweptCurve_specStart_none (indef : Int) (ph : Phys) (hb : ph.RpmExact)
    (h : ∀ k ∈ extractKeys (sweptMap ph.resp), ph.rpmOf (ph.resp k) ≤ 0) :
    specStart indef (sweptCurve ph) = 255 ∧ specMax indef (sweptCurve ph) = 255 :=
  have := (forall_sweptCurve indef hb (P := fun _ v => v ≤ 0)).mpr h
  ⟨specStart_none indef _ this, specMax_none indef _ this⟩

theorem sweptCurve_specMax (indef : Int) (ph : Phys) (hb : ph.RpmExact)
    (h : ∃ k ∈ extractKeys (sweptMap ph.resp), 0 < ph.rpmOf (ph.resp k)) :
    specMax indef (sweptCurve ph) ∈ extractKeys (sweptMap ph.resp) ∧
    (∀ k ∈ extractKeys (sweptMap ph.resp),
      ph.rpmOf (ph.resp k) ≤ ph.rpmOf (ph.resp (specMax indef (sweptCurve ph)))) ∧
    ∀ k ∈ extractKeys (sweptMap ph.resp),
      (∀ j ∈ extractKeys (sweptMap ph.resp), ph.rpmOf (ph.resp j) ≤ ph.rpmOf (ph.resp k)) →
      specMax indef (sweptCurve ph) ≤ k := by
  obtain ⟨p, hp, e, hmax, hlow⟩ := specMax_lowest indef (sweptCurve_sorted ph) (sweptCurve_rotates indef hb h)
  rw [rpmOf_sweptCurve indef ph hb hp, e] at hmax
  refine ⟨e ▸ (mem_sweptCurve.mp hp).1, (forall_sweptCurve indef hb (P := fun _ v => v ≤ _)).mp hmax, ?_⟩
  refine (forall_sweptCurve indef hb (P := fun k v =>
    (∀ j ∈ extractKeys (sweptMap ph.resp), ph.rpmOf (ph.resp j) ≤ v) → specMax indef (sweptCurve ph) ≤ k)).mp ?_
  exact fun q hq hq' => hlow q hq ((forall_sweptCurve indef hb (P := fun _ v => v ≤ rpmOf indef q)).mpr hq')

theorem harnessPhys_rpm_target {q s k : Int} (hk : k ∈ extractKeys (sweptMap (quantResp q))) :
    (harnessPhys q s).rpmOf ((harnessPhys q s).resp k) = if k ≥ s then 10 * k else 0 := by
  simp only [harnessPhys, quantResp_target hk, harnessRpm]

theorem harnessPhys_rpmExact (q s : Int) : (harnessPhys q s).RpmExact := by
  intro k h0 h1
  have := quantResp_range q h0
  simp only [harnessPhys, harnessRpm]
  split <;> rw [abs_le] <;> constructor <;> omega

/-- the highest target of the quantiser's swept map -/
def topTarget (q : Int) : Int := if q ≤ 1 then 255 else 255 / q * q

theorem topTarget_eq (q : Int) : topTarget q = quantResp q 255 := by
  unfold topTarget
  by_cases hq : q ≤ 1
  · rw [if_pos hq, quantResp, if_neg (by omega)]
  · rw [if_neg hq, quantResp_eq_ediv (by omega) (by norm_num)]

theorem topTarget_mem (q : Int) :
    topTarget q ∈ extractKeys (sweptMap (quantResp q)) ∧
    ∀ k ∈ extractKeys (sweptMap (quantResp q)), k ≤ topTarget q := by
  rw [topTarget_eq]
  obtain ⟨h0, h1⟩ := quantResp_range q (v := 255) (by norm_num)
  refine ⟨(mem_targets_quant q _).mpr ⟨h0, h1, (quantResp_fixed_iff q h0).mp (quantResp_idem q 255)⟩, fun k hk => ?_⟩
  obtain ⟨k0, k1, _⟩ := (mem_targets_quant q k).mp hk
  calc k = quantResp q k := (quantResp_target hk).symm
    _ ≤ quantResp q 255 := quantResp_mono q k0 k1

theorem harnessPhys_resp (q s : Int) : (harnessPhys q s).resp = quantResp q := rfl

theorem harnessPhys_rotates_iff {q s k : Int} (hk : k ∈ extractKeys (sweptMap (quantResp q))) :
    0 < (harnessPhys q s).rpmOf ((harnessPhys q s).resp k) ↔ s ≤ k ∧ 0 < k := by
  rw [harnessPhys_rpm_target hk]
  split <;> omega

theorem harnessPhys_limits (indef : Int) {q s : Int} (hs : s ≤ topTarget q) (hT0 : 0 < topTarget q) :
    specMax indef (sweptCurve (harnessPhys q s)) = topTarget q ∧
    specStart indef (sweptCurve (harnessPhys q s)) ∈ extractKeys (sweptMap (quantResp q)) ∧
    s ≤ specStart indef (sweptCurve (harnessPhys q s)) ∧ 0 < specStart indef (sweptCurve (harnessPhys q s)) ∧
    ∀ k ∈ extractKeys (sweptMap (quantResp q)), s ≤ k → 0 < k →
      specStart indef (sweptCurve (harnessPhys q s)) ≤ k := by
  obtain ⟨hTm, hTtop⟩ := topTarget_mem q
  have hb := harnessPhys_rpmExact q s
  have hex : ∃ k ∈ extractKeys (sweptMap (harnessPhys q s).resp),
      0 < (harnessPhys q s).rpmOf ((harnessPhys q s).resp k) :=
    ⟨_, hTm, (harnessPhys_rotates_iff hTm).mpr ⟨hs, hT0⟩⟩
  obtain ⟨m1, m2, -⟩ := sweptCurve_specMax indef (harnessPhys q s) hb hex
  obtain ⟨s1, s2, s3⟩ := sweptCurve_specStart indef (harnessPhys q s) hb hex
  rw [harnessPhys_resp] at m1 s1 s3
  have ⟨s4, s5⟩ := (harnessPhys_rotates_iff s1).mp s2
  refine ⟨?_, s1, s4, s5, fun k hk h1 h2 => s3 k hk ((harnessPhys_rotates_iff hk).mpr ⟨h1, h2⟩)⟩
  -- the top target rotates fastest, and no lower target reaches its RPM
  have hle := hTtop _ m1
  have hge := m2 _ hTm
  rw [harnessPhys_rpm_target hTm, harnessPhys_rpm_target m1, if_pos (by omega : topTarget q ≥ s)] at hge
  split at hge <;> omega

theorem harnessPhys_limits_none (indef : Int) {q s : Int} (h : ¬ (s ≤ topTarget q ∧ 0 < topTarget q)) :
    specStart indef (sweptCurve (harnessPhys q s)) = 255 ∧ specMax indef (sweptCurve (harnessPhys q s)) = 255 := by
  apply sweptCurve_specStart_none indef (harnessPhys q s) (harnessPhys_rpmExact q s)
  intro k hk
  rw [harnessPhys_resp] at hk
  by_contra hc
  have := (harnessPhys_rotates_iff (s := s) hk).mp (by omega)
  have := (topTarget_mem q).2 k hk
  exact h ⟨by omega, by omega⟩

/-- `specStart` / `specMax` are the specification functions of C13 -/
theorem limitsOf_hwmon (indef : Int) (cfg : FanCfg) (hk : cfg.kind = .hwmon) (d : List (Int × F64))
    (hne : d ≠ []) (hs : KeysSorted d) (h255 : ∀ p ∈ d, p.1 ≤ 255) :
    limitsOf indef cfg d = some
      (if cfg.neverStop then
          cfg.cfgMin.getD (if cfg.cfgStart.getD 255 < 255 then cfg.cfgStart.getD 255 else specStart indef d)
        else 0,
       cfg.cfgStart.getD (specStart indef d), cfg.cfgMax.getD (specMax indef d)) := by
  have e : cfg.newFan = FanSt.new .hwmon cfg.neverStop cfg.cfgMin cfg.cfgStart cfg.cfgMax := by
    simp [FanCfg.newFan, hk, fanKind]
  unfold limitsOf
  rw [e, attach_new indef _ _ _ _ hne hs h255]
  cases cfg.neverStop <;> rfl

end Fan2go.Analysis
