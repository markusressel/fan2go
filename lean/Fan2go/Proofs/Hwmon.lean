/-
  The hwmon model (`Model/Hwmon.lean`) in closed form. `GetFans` / `GetTempSensors` number the accepted
  features in libsensors order. The fan binding takes the FIRST, the sensor binding the LAST controller that
  offers a device: both are `List.findSome?` of a per-controller choice (`pick`), so with a single candidate the
  enumeration order is irrelevant. The loop over the configured entries binds each entry on its own and stops
  at the first one that fails. Core Lean only.
-/
import Fan2go.Model.Hwmon
namespace Fan2go
namespace Hwmon

section FirstHit
variable {α β : Type} {f : α → Option β} {l l' : List α}

theorem findSome?_eq_of_unique {a : α} (ha : a ∈ l)
    (hu : ∀ a' ∈ l, (f a').isSome = true → a' = a) : l.findSome? f = f a := by
  cases h : l.findSome? f with
  | none => exact (List.findSome?_eq_none_iff.1 h a ha).symm
  | some b =>
    obtain ⟨a', ha', hb⟩ := List.exists_of_findSome?_eq_some h
    rw [← hu a' ha' (by simp [hb]), hb]

theorem findSome?_congr_of_unique (hmem : ∀ a, a ∈ l ↔ a ∈ l')
    (hu : ∀ a ∈ l, ∀ b ∈ l, (f a).isSome = true → (f b).isSome = true → a = b) :
    l.findSome? f = l'.findSome? f := by
  cases h : l.findSome? f with
  | none =>
    rw [List.findSome?_eq_none_iff] at h
    exact (List.findSome?_eq_none_iff.2 fun a ha => h a ((hmem a).2 ha)).symm
  | some b =>
    obtain ⟨a, ha, hab⟩ := List.exists_of_findSome?_eq_some h
    rw [findSome?_eq_of_unique ((hmem a).1 ha)
      fun a' ha' hs => hu a' ((hmem a').2 ha') a ha hs (by simp [hab]), hab]

theorem unique_of_length_filter_le_one {p : α → Bool} (h : (l.filter p).length ≤ 1) :
    ∀ a ∈ l, ∀ b ∈ l, p a = true → p b = true → a = b := by
  intro a ha b hb pa pb
  have ha' := List.mem_filter.2 ⟨ha, pa⟩
  have hb' := List.mem_filter.2 ⟨hb, pb⟩
  match l.filter p, h, ha', hb' with
  | [], _, ha', _ => cases ha'
  | [x], _, ha', hb' => rw [List.mem_singleton.1 ha', List.mem_singleton.1 hb']
  | _ :: _ :: _, h, _, _ => simp at h

end FirstHit

def orErr {β : Type} (e : String) : Option β → Res β
  | some b => .ok b
  | none => .err e

theorem orErr_ne_panic {β : Type} {e s : String} {o : Option β} : orErr e o ≠ .panic s := by
  cases o <;> simp [orErr]

theorem orErr_eq_ok_iff {β : Type} {e : String} {o : Option β} {b : β} : orErr e o = .ok b ↔ o = some b := by
  cases o <;> simp [orErr]

theorem orErr_eq_err_iff {β : Type} {e : String} {o : Option β} : (∃ e', orErr e o = .err e') ↔ o = none := by
  cases o <;> simp [orErr]

/-- The offset is a `Nat` (`acc.length` in `getFansLoop_eq`), the number an `Int`: Go's `len(result)+1`, stored in
    `FanDev.index : Int`. -/
def number {α β : Type} (g : Int → α → β) (n : Nat) (l : List α) : List β :=
  l.mapIdx fun i a => g ((n : Int) + (i : Int) + 1) a

section Number
variable {α β : Type} {g : Int → α → β} {n : Nat} {l : List α}

@[simp] theorem number_nil : number g n ([] : List α) = [] := rfl

@[simp] theorem number_cons (a : α) : number g n (a :: l) = g ((n : Int) + 1) a :: number g (n + 1) l := by
  rw [number, List.mapIdx_cons, number, Int.natCast_zero, Int.add_zero]
  congr 2
  funext i a
  congr 1
  omega

theorem getElem?_number (i : Nat) : (number g n l)[i]? = (l[i]?).map (g ((n : Int) + (i : Int) + 1)) :=
  List.getElem?_mapIdx

theorem number_eq_nil : number g n l = [] ↔ l = [] := List.mapIdx_eq_nil_iff

end Number

/-- channels of the features `GetFans` accepts, in feature order -/
def fanChannels (fs : List Feature) : List Int := fs.filterMap fanChannel?

def mkFans (path : String) : Nat → List Int → List FanDev :=
  number fun k ch => { index := k, rpmChannel := ch, pwmChannel := ch, sysfsPath := path }

/-- `Name`s of the input sub-features of the features `GetTempSensors` accepts, in feature order -/
def tempInputs (fs : List Feature) : List String :=
  fs.filterMap fun ft => if ft.kind = .temp ∧ ft.hasInput = true then some ft.inputName else none

def mkTemps (path : String) : Nat → List String → List (Int × String) :=
  number fun k nm => (k, pathJoin path nm)

theorem getFansLoop_eq (path : String) (fs : List Feature) (acc : List FanDev) :
    getFansLoop path fs acc = acc ++ mkFans path acc.length (fanChannels fs) := by
  induction fs generalizing acc with
  | nil => simp [getFansLoop, fanChannels, mkFans]
  | cons ft rest ih =>
    rw [getFansLoop, fanChannels, List.filterMap_cons, fanChannel?]
    by_cases hk : ft.kind = .fan
    · by_cases hi : ft.hasInput = true
      · cases scanFanChannel ft.name <;> simp [hk, hi, ih, fanChannels, mkFans]
      · simp [hk, hi, ih, fanChannels]
    · simp [hk, ih, fanChannels]

/-- a feature whose name does not parse does not consume an index -/
theorem getFans_eq (c : RawChip) : getFans c = mkFans c.path 0 (fanChannels c.features) := by
  simp [getFans, getFansLoop_eq]

theorem getTempsLoop_eq (path : String) (fs : List Feature) (n : Nat) (acc : List (Int × String)) :
    getTempsLoop path fs (n : Int) acc = acc ++ mkTemps path n (tempInputs fs) := by
  induction fs generalizing n acc with
  | nil => simp [getTempsLoop, tempInputs, mkTemps]
  | cons ft rest ih =>
    rw [getTempsLoop, tempInputs, List.filterMap_cons]
    by_cases hk : ft.kind = .temp
    · by_cases hi : ft.hasInput = true
      · have h := ih (n + 1) (acc ++ [((n : Int) + 1, pathJoin path ft.inputName)])
        rw [Int.natCast_add, Int.natCast_one] at h
        simp [hk, hi, h, tempInputs, mkTemps]
      · simp [hk, hi, ih, tempInputs]
    · simp [hk, ih, tempInputs]

theorem getTemps_eq (c : RawChip) : getTemps c = mkTemps c.path 0 (tempInputs c.features) := by
  have := getTempsLoop_eq c.path c.features 0 []
  simpa [getTemps] using this

theorem mem_mkFans {path : String} {n : Nat} {chs : List Int} {f : FanDev} :
    f ∈ mkFans path n chs ↔ ∃ (i : Nat) (ch : Int), chs[i]? = some ch ∧
      f = { index := (n : Int) + (i : Int) + 1, rpmChannel := ch, pwmChannel := ch, sysfsPath := path } := by
  simp only [List.mem_iff_getElem?, mkFans, getElem?_number, Option.map_eq_some_iff, eq_comm (a := f)]

theorem lookupTemp_mkTemps (path : String) (n : Nat) (names : List String) (i : Nat) :
    lookupTemp (mkTemps path n names) ((n : Int) + (i : Int) + 1) = (names[i]?).map (pathJoin path) := by
  unfold mkTemps
  induction names generalizing n i with
  | nil => rfl
  | cons nm rest ih =>
    rw [number_cons, lookupTemp]
    cases i with
    | zero => simp
    | succ i =>
      rw [if_neg (by omega), List.getElem?_cons_succ, ← ih (n + 1) i]
      congr 1; omega

theorem lookupTemp_mkTemps_low (path : String) (n : Nat) (names : List String) (idx : Int)
    (h : idx ≤ n) : lookupTemp (mkTemps path n names) idx = none := by
  unfold mkTemps
  induction names generalizing n with
  | nil => rfl
  | cons nm rest ih => rw [number_cons, lookupTemp, if_neg (by omega), ih (n + 1) (by omega)]

theorem lookupTemp_getTemps (c : RawChip) (i : Nat) :
    lookupTemp (getTemps c) ((i : Int) + 1) = ((tempInputs c.features)[i]?).map (pathJoin c.path) := by
  have := lookupTemp_mkTemps c.path 0 (tempInputs c.features) i
  simpa [getTemps_eq] using this

theorem lookupTemp_getTemps_nonpos (c : RawChip) (idx : Int) (h : idx ≤ 0) :
    lookupTemp (getTemps c) idx = none := by
  rw [getTemps_eq]; exact lookupTemp_mkTemps_low _ 0 _ _ (by simpa using h)

/- stated as equations: unifying `(mkChip rc).platform` with `platformOf rc` by unfolding is dear
   (the unifier unfolds `platformOf` and its string functions first) -/
@[simp] theorem mkChip_platform (rc : RawChip) : (mkChip rc).platform = platformOf rc := by rw [mkChip]
@[simp] theorem mkChip_path (rc : RawChip) : (mkChip rc).path = rc.path := by rw [mkChip]
@[simp] theorem mkChip_fans (rc : RawChip) : (mkChip rc).fans = getFans rc := by rw [mkChip]
@[simp] theorem mkChip_temps (rc : RawChip) : (mkChip rc).temps = getTemps rc := by rw [mkChip]

theorem mem_getChips {raws : List RawChip} {c : Chip} :
    c ∈ getChips raws ↔ ∃ rc ∈ raws, (getFans rc ≠ [] ∨ getTemps rc ≠ []) ∧ c = mkChip rc := by
  simp only [getChips, List.mem_filterMap, Nat.le_zero, List.length_eq_zero_iff, mkChip_fans, mkChip_temps,
    Option.ite_none_left_eq_some, Option.some.injEq, Classical.not_and_iff_not_or_not, eq_comm (a := c)]

theorem getChips_reverse (raws : List RawChip) : getChips raws.reverse = (getChips raws).reverse :=
  List.filterMap_reverse

/-- every fan of the controller lives in the controller's directory and has pwm channel = rpm channel -/
def Chip.WF (c : Chip) : Prop := ∀ f ∈ c.fans, f.sysfsPath = c.path ∧ f.pwmChannel = f.rpmChannel

theorem mkChip_wf (rc : RawChip) : (mkChip rc).WF := fun f hf => by
  rw [mkChip_fans, getFans_eq] at hf
  obtain ⟨_, _, -, rfl⟩ := mem_mkFans.1 hf
  rw [mkChip_path]
  exact ⟨rfl, rfl⟩

theorem eq_mkChip_of_unique {m : String → String → Bool} {pat : String} {raws : List RawChip} {rc : RawChip}
    (huniq : ∀ rc' ∈ raws, m pat (platformOf rc') = true → rc' = rc) :
    ∀ c ∈ getChips raws, m pat c.platform = true → c = mkChip rc := by
  intro c hc hm
  obtain ⟨rc', hrc', -, rfl⟩ := mem_getChips.1 hc
  rw [huniq rc' hrc' (by rwa [mkChip_platform] at hm)]

theorem fanOk_iff (sel : FanSel) (f : FanDev) :
    fanOk sel f = true ↔
      (sel.index > 0 → f.index = sel.index) ∧ (sel.rpmChannel > 0 → f.rpmChannel = sel.rpmChannel) := by
  simp only [fanOk, Bool.and_eq_true, Bool.not_eq_true', Bool.and_eq_false_iff, decide_eq_false_iff_not]
  omega

theorem fanOk_of_index_ne {sel : FanSel} {f : FanDev} (hpos : sel.index > 0) (hne : f.index ≠ sel.index) :
    fanOk sel f = false :=
  Bool.eq_false_iff.2 fun h => hne (((fanOk_iff sel f).1 h).1 hpos)

theorem fanOk_of_channel_ne {sel : FanSel} {f : FanDev} (hpos : sel.rpmChannel > 0)
    (hne : f.rpmChannel ≠ sel.rpmChannel) : fanOk sel f = false :=
  Bool.eq_false_iff.2 fun h => hne (((fanOk_iff sel f).1 h).2 hpos)

theorem bindFanDevs_eq_find (sel : FanSel) (fs : List FanDev) :
    bindFanDevs sel fs = (fs.find? (fanOk sel)).map (mkBinding sel) := by
  induction fs with
  | nil => rfl
  | cons f fs ih =>
    rw [bindFanDevs, List.find?_cons, ih]
    by_cases h1 : sel.index > 0 ∧ f.index ≠ sel.index
    · simp [h1, fanOk]
    · by_cases h2 : sel.rpmChannel > 0 ∧ f.rpmChannel ≠ sel.rpmChannel
      · simp [h1, h2, fanOk]
      · simp [h1, h2, (fanOk_iff sel f).2 (by omega)]

theorem bindFanDevs_none_iff (sel : FanSel) (fs : List FanDev) :
    bindFanDevs sel fs = none ↔ ∀ f ∈ fs, fanOk sel f = false := by
  simp [bindFanDevs_eq_find, List.find?_eq_none]

theorem bindFanDevs_some {sel : FanSel} {fs : List FanDev} {b : FanBinding}
    (h : bindFanDevs sel fs = some b) : ∃ f ∈ fs, fanOk sel f = true ∧ b = mkBinding sel f := by
  rw [bindFanDevs_eq_find, Option.map_eq_some_iff] at h
  obtain ⟨f, hf, rfl⟩ := h
  exact ⟨f, List.mem_of_find?_eq_some hf, List.find?_some hf, rfl⟩

theorem bindFanDevs_unique {sel : FanSel} {fs : List FanDev} {f : FanDev}
    (hf : f ∈ fs) (hok : fanOk sel f = true) (huniq : ∀ f' ∈ fs, fanOk sel f' = true → f' = f) :
    bindFanDevs sel fs = some (mkBinding sel f) := by
  cases h : bindFanDevs sel fs with
  | none => rw [(bindFanDevs_none_iff sel fs).1 h f hf] at hok; cases hok
  | some b =>
    obtain ⟨f', hf', hok', rfl⟩ := bindFanDevs_some h
    rw [huniq f' hf' hok']

theorem bindFanDevs_first {sel : FanSel} {fs : List FanDev} {i : Nat} {f : FanDev} (hf : fs[i]? = some f)
    (hok : fanOk sel f = true) (hfirst : ∀ j < i, ∀ f', fs[j]? = some f' → fanOk sel f' = false) :
    bindFanDevs sel fs = some (mkBinding sel f) := by
  obtain ⟨hi, rfl⟩ := List.getElem?_eq_some_iff.1 hf
  rw [bindFanDevs_eq_find, (List.find?_eq_some_iff_getElem (b := fs[i])).2
    ⟨hok, i, hi, rfl, fun j hj => by rw [hfirst j hj _ (List.getElem?_eq_getElem _)]; rfl⟩]
  rfl

theorem bindFanDevs_mkFans_index (sel : FanSel) (path : String) (n i : Nat) (chs : List Int) (ch : Int)
    (hidx : sel.index = (n : Int) + (i : Int) + 1) (hrpm : sel.rpmChannel ≤ 0) (hch : chs[i]? = some ch) :
    bindFanDevs sel (mkFans path n chs) =
      some (mkBinding sel { index := sel.index, rpmChannel := ch, pwmChannel := ch, sysfsPath := path }) := by
  rw [hidx]
  refine bindFanDevs_first (i := i) (by rw [mkFans, getElem?_number, hch]; rfl)
    ((fanOk_iff ..).2 ⟨fun _ => hidx.symm, fun h => by omega⟩) fun j hj f' hf' => ?_
  rw [mkFans, getElem?_number, Option.map_eq_some_iff] at hf'
  obtain ⟨ch', -, rfl⟩ := hf'
  exact fanOk_of_index_ne (by omega) (by simp only; omega)

theorem bindFanDevs_mkFans_channel (sel : FanSel) (path : String) (n i : Nat) (chs : List Int)
    (hidx : sel.index ≤ 0) (hrpm : sel.rpmChannel > 0)
    (hch : chs[i]? = some sel.rpmChannel) (hfirst : ∀ j, j < i → chs[j]? ≠ some sel.rpmChannel) :
    bindFanDevs sel (mkFans path n chs) =
      some (mkBinding sel { index := (n : Int) + (i : Int) + 1, rpmChannel := sel.rpmChannel,
                            pwmChannel := sel.rpmChannel, sysfsPath := path }) := by
  refine bindFanDevs_first (i := i) (by rw [mkFans, getElem?_number, hch]; rfl)
    ((fanOk_iff ..).2 ⟨fun h => by omega, fun _ => rfl⟩) fun j hj f' hf' => ?_
  rw [mkFans, getElem?_number, Option.map_eq_some_iff] at hf'
  obtain ⟨ch', hch', rfl⟩ := hf'
  exact fanOk_of_channel_ne hrpm fun h => hfirst j hj (hch'.trans (congrArg some h))

section Pick
variable {β : Type} {m : String → String → Bool} {pat : String} {g : Chip → Option β} {c : Chip}

/-- what a binding loop takes from one controller: `g c`, provided the platform matches -/
def pick (m : String → String → Bool) (pat : String) (g : Chip → Option β) (c : Chip) : Option β :=
  if m pat c.platform then g c else none

theorem pick_eq_some_iff {b : β} : pick m pat g c = some b ↔ m pat c.platform = true ∧ g c = some b := by
  simp [pick]

theorem pick_eq_none_iff : pick m pat g c = none ↔ (m pat c.platform = true → g c = none) := by
  simp [pick]

theorem pick_isSome_iff : (pick m pat g c).isSome = true ↔ m pat c.platform = true ∧ (g c).isSome = true := by
  simp only [Option.isSome_iff_exists, pick_eq_some_iff, exists_and_left]

theorem findSome?_pick_of_unique {l : List Chip} (hc : c ∈ l) (hm : m pat c.platform = true)
    (hu : ∀ c' ∈ l, m pat c'.platform = true → (g c').isSome = true → c' = c) :
    l.findSome? (pick m pat g) = g c := by
  rw [findSome?_eq_of_unique hc fun c' hc' hs => have ⟨hm', hs'⟩ := pick_isSome_iff.1 hs; hu c' hc' hm' hs',
    pick, if_pos hm]

theorem findSome?_pick_congr {l l' : List Chip} (hmem : ∀ c, c ∈ l ↔ c ∈ l')
    (hu : ∀ a ∈ l, ∀ b ∈ l, m pat a.platform = true → (g a).isSome = true →
      m pat b.platform = true → (g b).isSome = true → a = b) :
    l.findSome? (pick m pat g) = l'.findSome? (pick m pat g) :=
  findSome?_congr_of_unique hmem fun a ha b hb hsa hsb =>
    have ⟨hma, hga⟩ := pick_isSome_iff.1 hsa
    have ⟨hmb, hgb⟩ := pick_isSome_iff.1 hsb
    hu a ha b hb hma hga hmb hgb

end Pick

/-- `UpdateFanConfigFromHwMonControllers`: the FIRST controller that offers a device decides -/
theorem bindFan_eq (m : String → String → Bool) (chips : List Chip) (sel : FanSel) :
    bindFan m chips sel =
      orErr "no-hwmon-fan-matched" (chips.findSome? (pick m sel.platform fun c => bindFanDevs sel c.fans)) := by
  induction chips with
  | nil => rfl
  | cons c cs ih =>
    rw [bindFan, List.findSome?_cons, pick, ih]
    split
    · split <;> simp_all [orErr]
    · rfl

/-- the controllers the loop of `initializeSensors` reacts to: platform matches AND the key is present,
    i.e. `pick` of `bindSensor_eq` is `some` (`pick_isSome_iff`); a name of its own because
    `C17_sensor_perm_invariant'` counts them -/
def sensorHit (m : String → String → Bool) (sel : SensorSel) (c : Chip) : Bool :=
  m sel.platform c.platform && (lookupTemp c.temps sel.index).isSome

theorem sensorHit_iff {m : String → String → Bool} {sel : SensorSel} {c : Chip} :
    sensorHit m sel c = true ↔
      m sel.platform c.platform = true ∧ (lookupTemp c.temps sel.index).isSome = true :=
  Bool.and_eq_true_iff

/-- the loop overwrites its state at every hit: the LAST controller that has the key decides -/
theorem bindSensorLoop_eq (m : String → String → Bool) (sel : SensorSel) (chips : List Chip)
    (acc : Bool × String) :
    bindSensorLoop m sel chips acc =
      .ok (((chips.reverse.findSome? (pick m sel.platform fun c => lookupTemp c.temps sel.index)).map
        (true, ·)).getD acc) := by
  induction chips generalizing acc with
  | nil => rfl
  | cons c cs ih =>
    rw [bindSensorLoop, List.reverse_cons, List.findSome?_append]
    simp only [ih, List.findSome?_cons, List.findSome?_nil, pick]
    split
    · cases lookupTemp c.temps sel.index <;> cases cs.reverse.findSome? _ <;> rfl
    · cases cs.reverse.findSome? _ <;> rfl

theorem bindSensor_eq (m : String → String → Bool) (chips : List Chip) (sel : SensorSel) :
    bindSensor m chips sel = orErr "no-hwmon-device"
      (chips.reverse.findSome? (pick m sel.platform fun c => lookupTemp c.temps sel.index)) := by
  rw [bindSensor, bindSensorLoop_eq]
  cases chips.reverse.findSome? _ <;> rfl

section Bind
variable {m : String → String → Bool} {chips chips' : List Chip}

theorem bindFan_ne_panic (m : String → String → Bool) (chips : List Chip) (sel : FanSel) (s : String) :
    bindFan m chips sel ≠ .panic s := by
  rw [bindFan_eq]; exact orErr_ne_panic

theorem bindFan_err_iff (m : String → String → Bool) (chips : List Chip) (sel : FanSel) :
    (∃ e, bindFan m chips sel = .err e) ↔
      ∀ c ∈ chips, m sel.platform c.platform = true → ∀ f ∈ c.fans, fanOk sel f = false := by
  simp only [bindFan_eq, orErr_eq_err_iff, List.findSome?_eq_none_iff, pick_eq_none_iff, bindFanDevs_none_iff]

theorem bindFan_sound {sel : FanSel} {b : FanBinding} (h : bindFan m chips sel = .ok b) :
    ∃ c ∈ chips, m sel.platform c.platform = true ∧ ∃ f ∈ c.fans, fanOk sel f = true ∧ b = mkBinding sel f := by
  rw [bindFan_eq, orErr_eq_ok_iff] at h
  obtain ⟨c, hc, hb⟩ := List.exists_of_findSome?_eq_some h
  obtain ⟨hm, hb⟩ := pick_eq_some_iff.1 hb
  exact ⟨c, hc, hm, bindFanDevs_some hb⟩

theorem bindFan_congr {sel : FanSel} (hmem : ∀ c, c ∈ chips ↔ c ∈ chips')
    (hu : ∀ a ∈ chips, ∀ b ∈ chips,
      m sel.platform a.platform = true → (bindFanDevs sel a.fans).isSome = true →
      m sel.platform b.platform = true → (bindFanDevs sel b.fans).isSome = true → a = b) :
    bindFan m chips sel = bindFan m chips' sel := by
  rw [bindFan_eq, bindFan_eq, findSome?_pick_congr hmem hu]

theorem bindSensor_ne_panic (m : String → String → Bool) (chips : List Chip) (sel : SensorSel) (s : String) :
    bindSensor m chips sel ≠ .panic s := by
  rw [bindSensor_eq]; exact orErr_ne_panic

theorem bindSensor_err_iff (m : String → String → Bool) (chips : List Chip) (sel : SensorSel) :
    (∃ e, bindSensor m chips sel = .err e) ↔
      ∀ c ∈ chips, m sel.platform c.platform = true → lookupTemp c.temps sel.index = none := by
  simp only [bindSensor_eq, orErr_eq_err_iff, List.findSome?_eq_none_iff, pick_eq_none_iff, List.mem_reverse]

theorem bindSensor_sound {sel : SensorSel} {p : String} (h : bindSensor m chips sel = .ok p) :
    ∃ c ∈ chips, m sel.platform c.platform = true ∧ lookupTemp c.temps sel.index = some p := by
  rw [bindSensor_eq, orErr_eq_ok_iff] at h
  obtain ⟨c, hc, hp⟩ := List.exists_of_findSome?_eq_some h
  exact ⟨c, List.mem_reverse.1 hc, pick_eq_some_iff.1 hp⟩

theorem bindSensor_congr {sel : SensorSel} (hmem : ∀ c, c ∈ chips ↔ c ∈ chips')
    (hu : ∀ a ∈ chips, ∀ b ∈ chips,
      m sel.platform a.platform = true → (lookupTemp a.temps sel.index).isSome = true →
      m sel.platform b.platform = true → (lookupTemp b.temps sel.index).isSome = true → a = b) :
    bindSensor m chips sel = bindSensor m chips' sel := by
  rw [bindSensor_eq, bindSensor_eq, findSome?_pick_congr (l' := chips'.reverse)
    (fun c => by rw [List.mem_reverse, List.mem_reverse, hmem c])
    fun a ha b hb => hu a (List.mem_reverse.1 ha) b (List.mem_reverse.1 hb)]

variable {raws : List RawChip} {rc : RawChip}

/-- `hl`: in whichever direction the controllers are walked -/
theorem findSome?_pick_getChips {β : Type} {pat : String} {g : Chip → Option β} {l : List Chip}
    (hl : ∀ c, c ∈ l ↔ c ∈ getChips raws)
    (hrc : rc ∈ raws) (hm : m pat (platformOf rc) = true)
    (huniq : ∀ rc' ∈ raws, m pat (platformOf rc') = true → rc' = rc)
    (hne : getFans rc ≠ [] ∨ getTemps rc ≠ []) :
    l.findSome? (pick m pat g) = g (mkChip rc) :=
  findSome?_pick_of_unique ((hl _).2 (mem_getChips.2 ⟨rc, hrc, hne, rfl⟩)) (by rwa [mkChip_platform])
    fun c' hc' hm' _ => eq_mkChip_of_unique huniq c' ((hl c').1 hc') hm'

theorem bindFan_getChips {sel : FanSel}
    (hrc : rc ∈ raws) (hm : m sel.platform (platformOf rc) = true)
    (huniq : ∀ rc' ∈ raws, m sel.platform (platformOf rc') = true → rc' = rc)
    (hfans : fanChannels rc.features ≠ []) :
    bindFan m (getChips raws) sel =
      orErr "no-hwmon-fan-matched" (bindFanDevs sel (mkFans rc.path 0 (fanChannels rc.features))) := by
  rw [bindFan_eq, findSome?_pick_getChips (fun _ => .rfl) hrc hm huniq
    (.inl (by rwa [getFans_eq, Ne, mkFans, number_eq_nil])), mkChip_fans, getFans_eq]

theorem bindSensor_getChips {sel : SensorSel}
    (hrc : rc ∈ raws) (hm : m sel.platform (platformOf rc) = true)
    (huniq : ∀ rc' ∈ raws, m sel.platform (platformOf rc') = true → rc' = rc)
    (htemps : tempInputs rc.features ≠ []) :
    bindSensor m (getChips raws) sel = orErr "no-hwmon-device" (lookupTemp (getTemps rc) sel.index) := by
  rw [bindSensor_eq, findSome?_pick_getChips (fun _ => List.mem_reverse) hrc hm huniq
    (.inr (by rwa [getTemps_eq, Ne, mkTemps, number_eq_nil])), mkChip_temps]

end Bind

def errAt (tag : String) (i : Nat) : String := s!"{tag}@{i}"

/-- `s!"{tag}@{i}"` is `(tag ++ "@") ++ toString i`, and `s!"tag@{i}"` with the tag written out is
    `"tag@" ++ toString i`: the two meet once the literals `tag ++ "@"` and `"tag@"` are compared. -/
theorem errAt_eq {tag tagAt : String} (h : tag ++ "@" = tagAt) (i : Nat) : errAt tag i = s!"{tagAt}{i}" :=
  h ▸ rfl

section AllOk
variable {σ β : Type} {f : σ → Res β} {sels sels' : List σ} {bs : List β}

theorem map_eq_map_ok_iff (f : σ → Res β) (sels : List σ) (bs : List β) :
    sels.map f = bs.map Res.ok ↔
      bs.length = sels.length ∧ ∀ i (h₁ : i < sels.length) (h₂ : i < bs.length), f sels[i] = .ok bs[i] := by
  simp only [List.ext_getElem_iff, List.length_map, List.getElem_map, eq_comm (a := bs.length)]

theorem getElem?_of_map_eq_map_ok (h : sels.map f = bs.map Res.ok) {i : Nat} {sel : σ} (hi : sels[i]? = some sel) :
    ∃ b, bs[i]? = some b ∧ f sel = .ok b := by
  have e : (bs.map Res.ok)[i]? = some (f sel) := by rw [← h, List.getElem?_map, hi]; rfl
  rw [List.getElem?_map, Option.map_eq_some_iff] at e
  obtain ⟨b, hb, e⟩ := e
  exact ⟨b, hb, e.symm⟩

theorem ok_of_map_eq_map_ok (h : sels.map f = bs.map Res.ok) {sel : σ} (hmem : sel ∈ sels) : ∃ b, f sel = .ok b :=
  have ⟨_, hi⟩ := List.getElem?_of_mem hmem
  have ⟨b, _, hb⟩ := getElem?_of_map_eq_map_ok h hi
  ⟨b, hb⟩

theorem exists_map_ok (h : ∀ s ∈ sels, ∃ b, f s = .ok b) : ∃ bs : List β, sels.map f = bs.map Res.ok := by
  induction sels with
  | nil => exact ⟨[], rfl⟩
  | cons s rest ih =>
    obtain ⟨bs, hbs⟩ := ih fun x hx => h x (List.mem_cons_of_mem _ hx)
    obtain ⟨b, hb⟩ := h s List.mem_cons_self
    exact ⟨b :: bs, by simp [hbs, hb]⟩

/-- removing, permuting or repeating entries never turns success into failure -/
theorem map_eq_map_ok_of_subset (h : sels.map f = bs.map Res.ok) (hsub : ∀ sel ∈ sels', sel ∈ sels) :
    ∃ bs' : List β, sels'.map f = bs'.map Res.ok :=
  exists_map_ok fun s hs => ok_of_map_eq_map_ok h (hsub s hs)

theorem map_ok_or_first (f : σ → Res β) (sels : List σ) :
    (∃ bs : List β, sels.map f = bs.map Res.ok) ∨
    ∃ pre sel post, ∃ bs : List β, sels = pre ++ sel :: post ∧ pre.map f = bs.map Res.ok ∧ ∀ b, f sel ≠ .ok b := by
  induction sels with
  | nil => exact .inl ⟨[], rfl⟩
  | cons s rest ih =>
    cases hs : f s with
    | ok b =>
      rcases ih with ⟨bs, h⟩ | ⟨pre, sel, post, bs, rfl, h, hsel⟩
      · exact .inl ⟨b :: bs, by simp [h, hs]⟩
      · exact .inr ⟨s :: pre, sel, post, b :: bs, rfl, by simp [h, hs], hsel⟩
    | _ => exact .inr ⟨[], s, rest, [], rfl, rfl, fun b h => by rw [hs] at h; cases h⟩

end AllOk

section Loop
variable {σ β : Type} {f : σ → Res β} {tag : String}

/-- what each outcome of the loop says about the entries -/
def LoopSpec (f : σ → Res β) (tag : String) (i : Nat) (sels : List σ) (acc : List β) : Res (List β) → Prop
  | .ok out => ∃ bs, out = acc ++ bs ∧ sels.map f = bs.map Res.ok
  | .err e => ∃ pre sel post, sels = pre ++ sel :: post ∧ (∀ s ∈ pre, ∃ b, f s = .ok b) ∧
      (∃ e', f sel = .err e') ∧ e = errAt tag (i + pre.length)
  | .panic s => ∃ sel ∈ sels, f sel = .panic s

theorem bindEntriesLoop_append {pre : List σ} {bs : List β} (h : pre.map f = bs.map Res.ok) (rest : List σ)
    (i : Nat) (acc : List β) :
    bindEntriesLoop f tag i (pre ++ rest) acc = bindEntriesLoop f tag (i + pre.length) rest (acc ++ bs) := by
  induction pre generalizing i acc bs with
  | nil => cases bs <;> simp_all
  | cons sel pre ih =>
    cases bs with
    | nil => simp at h
    | cons b bs =>
      simp only [List.map_cons, List.cons.injEq] at h
      rw [List.cons_append, bindEntriesLoop, h.1]
      simp only
      rw [ih h.2, List.length_cons, List.append_assoc, List.singleton_append, Nat.add_right_comm, Nat.add_assoc]

theorem bindEntriesLoop_ok {sels : List σ} {bs : List β} (h : sels.map f = bs.map Res.ok) (i : Nat) (acc : List β) :
    bindEntriesLoop f tag i sels acc = .ok (acc ++ bs) := by
  simpa [bindEntriesLoop] using bindEntriesLoop_append (tag := tag) h [] i acc

theorem bindEntriesLoop_err {pre post : List σ} {sel : σ} {e' : String} (hpre : ∀ s ∈ pre, ∃ b, f s = .ok b)
    (hs : f sel = .err e') (i : Nat) (acc : List β) :
    bindEntriesLoop f tag i (pre ++ sel :: post) acc = .err (errAt tag (i + pre.length)) := by
  obtain ⟨bs, hbs⟩ := exists_map_ok hpre
  rw [bindEntriesLoop_append hbs, bindEntriesLoop, hs]
  rfl

theorem bindEntriesLoop_spec (i : Nat) (sels : List σ) (acc : List β) :
    LoopSpec f tag i sels acc (bindEntriesLoop f tag i sels acc) := by
  rcases map_ok_or_first f sels with ⟨bs, h⟩ | ⟨pre, sel, post, bs, rfl, h, hsel⟩
  · rw [bindEntriesLoop_ok h]
    exact ⟨bs, rfl, h⟩
  · rw [bindEntriesLoop_append h, bindEntriesLoop]
    cases hf : f sel with
    | ok b => exact absurd hf (hsel b)
    | err e' => exact ⟨pre, sel, post, rfl, fun s hs => ok_of_map_eq_map_ok h hs, ⟨e', hf⟩, rfl⟩
    | panic s => exact ⟨sel, by simp, hf⟩

theorem bindEntriesLoop_ok_iff (f : σ → Res β) (tag : String) (i : Nat) (sels : List σ)
    (acc out : List β) :
    bindEntriesLoop f tag i sels acc = .ok out ↔ ∃ bs, out = acc ++ bs ∧ sels.map f = bs.map Res.ok :=
  ⟨fun h => by simpa only [h, LoopSpec] using bindEntriesLoop_spec (f := f) (tag := tag) i sels acc,
   fun ⟨_, ho, h⟩ => ho ▸ bindEntriesLoop_ok h i acc⟩

theorem bindEntriesLoop_panic {i : Nat} {sels : List σ}
    {acc : List β} {s : String} (h : bindEntriesLoop f tag i sels acc = .panic s) :
    ∃ sel ∈ sels, f sel = .panic s := by
  simpa only [h, LoopSpec] using bindEntriesLoop_spec (f := f) (tag := tag) i sels acc

theorem bindEntriesLoop_err_iff (f : σ → Res β) (tag : String) (i : Nat) (sels : List σ)
    (acc : List β) (e : String) :
    bindEntriesLoop f tag i sels acc = .err e ↔
      ∃ pre sel post, sels = pre ++ sel :: post ∧ (∀ s ∈ pre, ∃ b, f s = .ok b) ∧
        (∃ e', f sel = .err e') ∧ e = errAt tag (i + pre.length) :=
  ⟨fun h => by simpa only [h, LoopSpec] using bindEntriesLoop_spec (f := f) (tag := tag) i sels acc,
   fun ⟨_, _, _, hsels, hpre, ⟨_, hs⟩, he⟩ => hsels ▸ he ▸ bindEntriesLoop_err hpre hs i acc⟩

theorem bindEntriesLoop_fails_iff (f : σ → Res β) (tag : String) (i : Nat) (sels : List σ)
    (acc : List β) (hnp : ∀ sel s, f sel ≠ .panic s) :
    (∃ e, bindEntriesLoop f tag i sels acc = .err e) ↔ ∃ sel ∈ sels, ∃ e, f sel = .err e := by
  constructor
  · rintro ⟨e, h⟩
    obtain ⟨pre, sel, post, rfl, _, hs, _⟩ := (bindEntriesLoop_err_iff f tag i sels acc e).1 h
    exact ⟨sel, by simp, hs⟩
  · rintro ⟨sel, hmem, e', he'⟩
    cases h : bindEntriesLoop f tag i sels acc with
    | err e => exact ⟨e, rfl⟩
    | panic s =>
      obtain ⟨sel', _, hp⟩ := bindEntriesLoop_panic h
      exact absurd hp (hnp sel' s)
    | ok out =>
      obtain ⟨bs, _, hmap⟩ := (bindEntriesLoop_ok_iff f tag i sels acc out).1 h
      obtain ⟨b, hb⟩ := ok_of_map_eq_map_ok hmap hmem
      cases he'.symm.trans hb

end Loop

section Entries
variable {σ β : Type} {f : σ → Res β} {tag : String}

theorem bindEntries_ok_iff (f : σ → Res β) (tag : String) (sels : List σ) (bs : List β) :
    bindEntriesLoop f tag 0 sels [] = .ok bs ↔ sels.map f = bs.map Res.ok := by
  simp [bindEntriesLoop_ok_iff]

theorem bindEntries_first_failure (f : σ → Res β) (tag : String) (sels : List σ)
    (hnp : ∀ sel s, f sel ≠ .panic s) :
    (∀ s, bindEntriesLoop f tag 0 sels [] ≠ .panic s) ∧
    ((∃ e, bindEntriesLoop f tag 0 sels [] = .err e) ↔ ∃ sel ∈ sels, ∃ e, f sel = .err e) ∧
    (∀ e, bindEntriesLoop f tag 0 sels [] = .err e ↔
      ∃ pre sel post, sels = pre ++ sel :: post ∧ (∀ s ∈ pre, ∃ b, f s = .ok b) ∧
        (∃ e', f sel = .err e') ∧ e = errAt tag pre.length) := by
  refine ⟨fun s h => ?_, bindEntriesLoop_fails_iff f tag 0 sels [] hnp, fun e => ?_⟩
  · obtain ⟨sel, _, hp⟩ := bindEntriesLoop_panic h
    exact hnp sel s hp
  · simp only [bindEntriesLoop_err_iff, Nat.zero_add]

theorem bindEntries_no_leak {sels : List σ} {bs : List β} (h : bindEntriesLoop f tag 0 sels [] = .ok bs) :
    (∀ sels', (∀ sel ∈ sels', sel ∈ sels) → ∃ bs', bindEntriesLoop f tag 0 sels' [] = .ok bs') ∧
    (∀ (sels' : List σ) (bs' : List β) (i j : Nat) (sel : σ), bindEntriesLoop f tag 0 sels' [] = .ok bs' →
        sels[i]? = some sel → sels'[j]? = some sel →
        ∃ b, bs[i]? = some b ∧ bs'[j]? = some b ∧ f sel = .ok b) := by
  rw [bindEntries_ok_iff] at h
  refine ⟨fun sels' hsub => ?_, fun sels' bs' i j sel h' hi hj => ?_⟩
  · obtain ⟨bs', hbs'⟩ := map_eq_map_ok_of_subset h hsub
    exact ⟨bs', (bindEntries_ok_iff f tag sels' bs').2 hbs'⟩
  · obtain ⟨b, hb, e⟩ := getElem?_of_map_eq_map_ok h hi
    obtain ⟨b', hb', e'⟩ := getElem?_of_map_eq_map_ok ((bindEntries_ok_iff f tag sels' bs').1 h') hj
    cases e.symm.trans e'
    exact ⟨b, hb, hb', e⟩

end Entries
end Hwmon
end Fan2go
