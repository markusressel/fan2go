/-
  `UpdateFanSpeed` under the device contract of C05 (`ReadsBack`, `Synced`, the map part of `Inv`):
  what `ensureNoThirdPartyIsMessingWithUs` counts, what `setPwm` leaves in the register, and that a
  cycle from a good state ends in a good state.  Core Lean only.
  The control loop is never unfolded: all statements hold for every `LoopSt` and every `indef`.
-/
import Fan2go.Proofs.ControllerSteps
namespace Fan2go

theorem MapInv.closest_ok_mem {c : Ctl} (h : MapInv c) (t : Int) :
    ∃ k, closestDistinct c t = .ok k ∧ ∃ m, c.pwmMap = some m ∧ ∃ p ∈ m, applyPwmMapping c k = p.2 := by
  obtain ⟨r, hr, i, hi, hri⟩ := h.closest_ok t
  obtain ⟨m, hm, hok, hd⟩ := h
  -- `r = distinct[i]` is a key of the map, so the lookup finds an entry
  have hmem : r ∈ extractKeys m := by
    rw [hd, List.size_toArray] at hi
    rw [← hri, hd, getElem!_pos _ i (by simpa using hi), List.getElem_toArray]
    exact List.getElem_mem hi
  obtain ⟨p, hp, hpk⟩ := mapGet_mem (extractKeys_sub m r hmem)
  exact ⟨r, hr, m, hm, p, hp, by unfold applyPwmMapping; rw [hm]; exact hpk⟩

/-- what C05 needs to be the same in `w'` as in `w`: device, fan kind, request memory, PWM map and the
    values captured at start-up (`calculateTargetPwm` and `measureRpm` keep them; everything else,
    e.g. loop memory, offset, counters, RPM average, is left open) -/
structure Keeps (w w' : World) : Prop where
  dev : w'.dev = w.dev
  kind : w'.fan.kind = w.fan.kind
  lastSet : w'.ctl.lastSet = w.ctl.lastSet
  pwmMap : w'.ctl.pwmMap = w.ctl.pwmMap
  distinct : w'.ctl.distinct = w.ctl.distinct
  origMode : w'.ctl.origMode = w.ctl.origMode
  origPwm : w'.ctl.origPwm = w.ctl.origPwm

theorem CalcFrame.keeps {w w' : World} (h : CalcFrame w w') : Keeps w w' :=
  ⟨h.dev, h.fan.kind, h.lastSet, h.pwmMap, h.distinct, h.origMode, h.origPwm⟩

theorem MapInv.of_keeps {w w' : World} (hm : MapInv w.ctl) (h : Keeps w w') : MapInv w'.ctl :=
  let ⟨m, h1, h2, h3⟩ := hm
  ⟨m, h.pwmMap ▸ h1, h2, h.distinct ▸ h3⟩

theorem ReadsBack.of_switches {w w' : World} (hr : ReadsBack w) (hs : SameSwitches w.dev w'.dev)
    (hm : w'.ctl.pwmMap = w.ctl.pwmMap) : ReadsBack w' :=
  ⟨hs.pwmRead.trans hr.pwmRead, hs.pwmWrite.trans hr.pwmWrite, hs.modeRead.trans hr.modeRead,
    hs.modeWrite.trans hr.modeWrite, by rw [hs.resp, hm]; exact hr.idem⟩

theorem ReadsBack.of_keeps {w w' : World} (hr : ReadsBack w) (h : Keeps w w') : ReadsBack w' :=
  hr.of_switches (by rw [h.dev]; exact ⟨rfl, rfl, rfl, rfl, rfl, rfl, rfl, rfl⟩) h.pwmMap

theorem ensure_counted {w : World} {l k : Int} (hm : ∃ m, w.ctl.pwmMap = some m)
    (hr : w.dev.pwmRead = .ok) (hl : w.ctl.lastSet = some l) (hk : closestDistinct w.ctl l = .ok k) :
    ensureNoThirdParty w =
      if w.dev.pwm ≠ applyPwmMapping w.ctl k then .ok (bumpUnexpected w, [.thirdParty]) else .ok (w, []) := by
  obtain ⟨m, hm⟩ := hm
  simp [ensureNoThirdParty, supports_pwmSensor_of_read hr, hl, hm, hk, fanGetPwm, hr, bumpUnexpected]

theorem ensure_synced {w : World} (hs : Synced w) : ensureNoThirdParty w = .ok (w, []) := by
  rcases ensure_cases w with h | ⟨-, l, k, hl, hk, hne⟩ | ⟨-, l, hl, hk⟩
  · exact h
  · obtain ⟨k', hk', hp⟩ := hs l hl
    rw [hk] at hk'; cases hk'
    exact absurd hp hne
  · obtain ⟨k, hk', -⟩ := hs l hl
    exact absurd hk' (hk k)

theorem Synced.of_none {w : World} (hl : w.ctl.lastSet = none) : Synced w :=
  fun l h => by rw [hl] at h; cases h

theorem ensure_none {w : World} (hl : w.ctl.lastSet = none) : ensureNoThirdParty w = .ok (w, []) :=
  ensure_synced (.of_none hl)

theorem calc_keeps (indef : Int) (w : World) (curve : Res Int) (now : Int) :
    Keeps w (calculateTargetPwm indef w curve now).1 :=
  (calc_cases indef w curve now).frame.keeps

theorem stallBranch_count (indef : Int) (w wm : World) (obs0 : List Obs) (t : Int) :
    (stallBranch indef w wm obs0 t).1.ctl.unexpectedCount = wm.ctl.unexpectedCount ∧
    (Obs.thirdParty ∈ (stallBranch indef w wm obs0 t).2.2 ↔ Obs.thirdParty ∈ obs0) := by
  unfold stallBranch
  split
  · split <;> simp [raiseWorld]
  · simp

theorem calc_synced (indef : Int) (w : World) (curve : Res Int) (now : Int) (hs : Synced w) :
    Obs.thirdParty ∉ (calculateTargetPwm indef w curve now).2.2 ∧
    (calculateTargetPwm indef w curve now).1.ctl.unexpectedCount = w.ctl.unexpectedCount := by
  rw [calc_eq]
  cases lastSetR w with
  | err | panic => exact ⟨List.not_mem_nil, rfl⟩
  | ok last =>
  cases curve with
  | err | panic => exact ⟨List.not_mem_nil, rfl⟩
  | ok cv =>
  -- `Synced` does not look at the loop memory: `hs` serves for `withLoop w _`
  dsimp only
  rw [ensure_synced (w := withLoop w (w.ctl.loop.cycle indef cv last now).1) hs]
  have := stallBranch_count indef w (withLoop w (w.ctl.loop.cycle indef cv last now).1) []
    (computedTarget indef w cv last now)
  exact ⟨fun h => List.not_mem_nil (this.2.1 h), this.1⟩

/-- C05: exactly the register differing from the expected value is counted, once. -/
theorem calc_counted (indef : Int) (w : World) (cv : Int) (now : Int) {l k : Int}
    (hm : MapInv w.ctl) (hr : w.dev.pwmRead = .ok) (hl : w.ctl.lastSet = some l)
    (hk : closestDistinct w.ctl l = .ok k) :
    (Obs.thirdParty ∈ (calculateTargetPwm indef w (.ok cv) now).2.2 ↔ w.dev.pwm ≠ applyPwmMapping w.ctl k) ∧
    (calculateTargetPwm indef w (.ok cv) now).1.ctl.unexpectedCount =
      w.ctl.unexpectedCount + (if w.dev.pwm ≠ applyPwmMapping w.ctl k then 1 else 0) := by
  obtain ⟨m, hm, -⟩ := hm
  have he : ensureNoThirdParty (withLoop w (w.ctl.loop.cycle indef cv l now).1) =
      if w.dev.pwm ≠ applyPwmMapping w.ctl k then _ else _ :=
    ensure_counted (w := withLoop w (w.ctl.loop.cycle indef cv l now).1) ⟨m, hm⟩ hr hl hk
  rw [calc_eq, lastSetR_of_some hl]
  dsimp only
  have hb := stallBranch_count indef w
  by_cases hne : w.dev.pwm ≠ applyPwmMapping w.ctl k
  · rw [if_pos hne] at he
    rw [he, if_pos hne, (hb _ _ _).1, (hb _ _ _).2]
    exact ⟨by simp [hne], rfl⟩
  · rw [if_neg hne] at he
    rw [he, if_neg hne, (hb _ _ _).1, (hb _ _ _).2]
    exact ⟨by simp [hne], by simp [withLoop]⟩

/-- The conditions under which C05 speaks: PWM map installed, cooperative device, register in sync. -/
structure Good (w : World) : Prop where
  map : MapInv w.ctl
  rb : ReadsBack w
  synced : Synced w

theorem ctlSetPwm_readsBack {w : World} (t : Int) (hm : MapInv w.ctl) (hrb : ReadsBack w) :
    ∃ k, closestDistinct w.ctl t = .ok k ∧
      (ctlSetPwm w t).1 = { w with dev := { w.dev with pwm := applyPwmMapping w.ctl k },
                                   ctl := { w.ctl with lastSet := some t } } := by
  obtain ⟨k, hk, m, hmm, p, hp, hpk⟩ := hm.closest_ok_mem t
  refine ⟨k, hk, ?_⟩
  rw [ctlSetPwm_eq, hk]
  dsimp only
  rw [skipWrite_of_read hrb.pwmRead]
  split
  · next heq => rw [beq_iff_eq.1 heq]
  · -- read back as written since the value is an output of the map
    rw [fanSetPwm_applied hrb.pwmWrite, hpk, hrb.idem m hmm p hp]

/-- What `trySetManualPwm; setPwm t` achieves from `w` under the device contract of C05. With
    `lastSet`, `good.synced` says that the register shows the map value of the nearest supported
    input of `t`. -/
structure SetOk (w : World) (t : Int) (w' : World) (o : List Obs) : Prop where
  good : Good w'
  manual : supports w.fan w.dev .controlMode = true → w'.dev.mode = 1
  lastSet : w'.ctl.lastSet = some t
  count : w'.ctl.unexpectedCount = w.ctl.unexpectedCount
  quiet : Obs.thirdParty ∉ o

theorem set_ok {w : World} (t : Int) (hm : MapInv w.ctl) (hrb : ReadsBack w) :
    SetOk w t (ctlSetPwm (afterManual w) t).1
      ((trySetManualPwm w.fan w.dev).2.2 ++ (ctlSetPwm (afterManual w) t).2.2) := by
  have hrb' : ReadsBack (afterManual w) := hrb.of_switches (trySetManualPwm_switches _ _) rfl
  obtain ⟨k, hk, hset⟩ := ctlSetPwm_readsBack (w := afterManual w) t hm hrb'
  rw [hset]
  refine ⟨⟨hm, hrb'.of_switches ⟨rfl, rfl, rfl, rfl, rfl, rfl, rfl, rfl⟩ rfl,
    fun l hl => by cases hl; exact ⟨k, hk, rfl⟩⟩, fun hs => ?_, rfl, rfl, fun h => ?_⟩
  · show (trySetManualPwm w.fan w.dev).1.mode = 1
    rw [trySetManualPwm_mode hs hrb.modeWrite hrb.modeRead]
  · obtain ⟨_, _, h⟩ | ⟨_, _, h⟩ := set_obs_write w t _ h <;> cases h

theorem ufs_ok {indef : Int} {w : World} {curve : Res Int} {now : Int} {w' : World} {obs : List Obs}
    (hm : MapInv w.ctl) (hrb : ReadsBack w)
    (h : updateFanSpeed indef w curve now = (w', .ok (), obs)) :
    ∃ t o', (calculateTargetPwm indef w curve now).2.1 = .ok t ∧
      obs = (calculateTargetPwm indef w curve now).2.2 ++ o' ∧
      SetOk (calculateTargetPwm indef w curve now).1 t w' o' := by
  have hk := calc_keeps indef w curve now
  rw [ufs_eq] at h
  generalize calculateTargetPwm indef w curve now = c at h hk ⊢
  obtain ⟨w1, r, o⟩ := c
  cases r with
  | err | panic => cases h
  | ok t =>
    have hs := set_ok t (hm.of_keeps hk) (hrb.of_keeps hk)
    simp only [Prod.mk.injEq] at h
    obtain ⟨rfl, -, rfl⟩ := h
    exact ⟨t, _, rfl, List.append_assoc _ _ _, hs⟩

theorem Good.poll {indef : Int} {w : World} (h : Good w) : Good (measureRpm indef w) :=
  have hk : Keeps w (measureRpm indef w) := ⟨rfl, (measureRpm_fanSame indef w).kind, rfl, rfl, rfl, rfl, rfl⟩
  ⟨h.map.of_keeps hk, h.rb.of_keeps hk,
    by unfold Synced; rw [measureRpm_ctl, measureRpm_dev]; exact h.synced⟩

theorem Good.step {indef : Int} {w : World} (h : Good w) (e : Ev) (he : ∀ d, e ≠ .env d) :
    (stepEv indef w e).w.ctl.unexpectedCount = w.ctl.unexpectedCount ∧
    Obs.thirdParty ∉ (stepEv indef w e).obs ∧
    ((stepEv indef w e).result = .ok () → Good (stepEv indef w e).w) := by
  cases e with
  | env d => exact absurd rfl (he d)
  | poll => exact ⟨rfl, List.not_mem_nil, fun _ => h.poll⟩
  | cycle curve now =>
    obtain ⟨hn, hc⟩ := calc_synced indef w curve now h.synced
    have hk := calc_keeps indef w curve now
    rw [stepEv_cycle, ufs_eq]
    generalize calculateTargetPwm indef w curve now = c at hc hn hk ⊢
    obtain ⟨w1, r, o⟩ := c
    cases r with
    | err | panic => exact ⟨hc, hn, nofun⟩
    | ok t =>
      have hs := set_ok t (h.map.of_keeps hk) (h.rb.of_keeps hk)
      exact ⟨hs.count.trans hc, fun hx => (List.mem_append.mp (List.append_assoc _ _ _ ▸ hx)).elim hn hs.quiet,
        fun _ => hs.good⟩

end Fan2go
