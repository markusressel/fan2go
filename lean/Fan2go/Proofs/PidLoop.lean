/-
  The default PID control loop (internal/util/pid.go, internal/control_loop/pid.go) in the closed loop
  the controller wires on the identity range (fan min 0, max 255).

  While `|integral| ≤ 2^21` every binary64 operation of a cycle stays finite, so a cycle is a pair of
  rational values `pidJ`, `pidS` (one `fl64` per rounding) within 2^-30 and 2^-31 of the exact
  recurrence
      u = 3/10·e + 1/50·(I + e·t) + 1/200·(e − e_prev)/t ,  x' = clampRound (x + u) .
  From `pidClosed_refines` on, the proofs speak about that recurrence with slack `eps = 2^-30`
  (`AStep`) and not about floats; `AInv` is the no-wind-up invariant that keeps the integral far
  below 2^21 along every run with ticks of 50 ms..2 s.
-/
import Fan2go.Proofs.ControlLoops
namespace Fan2go
open F64

-- the default gains 0.3, 0.02, 0.005 as binary64 values
def gP : ℚ := fl64 (3 / 10)
def gI : ℚ := fl64 (1 / 50)
def gD : ℚ := fl64 (1 / 200)

theorem gP_close : |gP - 3 / 10| ≤ 1 / 2 ^ 53 :=
  fl64_err_num (M := 3 / 10) (by norm_num [abs_of_pos]) (by norm_num)
theorem gI_close : |gI - 1 / 50| ≤ 1 / 2 ^ 57 :=
  fl64_err_num (M := 1 / 50) (by norm_num [abs_of_pos]) (by norm_num)
theorem gD_close : |gD - 1 / 200| ≤ 1 / 2 ^ 59 :=
  fl64_err_num (M := 1 / 200) (by norm_num [abs_of_pos]) (by norm_num)

theorem gP_abs : |gP| ≤ 1 := abs_le_of_close gP_close (by norm_num [abs_of_pos])
theorem gI_abs : |gI| ≤ 1 / 32 := abs_le_of_close gI_close (by norm_num [abs_of_pos])
theorem gD_abs : |gD| ≤ 1 / 128 := abs_le_of_close gD_close (by norm_num [abs_of_pos])

theorem ofRat_gP : ofRat (3 / 10) = fin gP :=
  ofRat_fin_of_abs_le_two_pow 0 (by norm_num [abs_of_pos])
theorem ofRat_gI : ofRat (1 / 50) = fin gI :=
  ofRat_fin_of_abs_le_two_pow 0 (by norm_num [abs_of_pos])
theorem ofRat_gD : ofRat (1 / 200) = fin gD :=
  ofRat_fin_of_abs_le_two_pow 0 (by norm_num [abs_of_pos])

/-- the new integral as binary64 computes it: `integral + err*dt`. -/
def pidJ (I e t : ℚ) : ℚ := fl64 (I + fl64 (e * t))

/-- the PID output as binary64 computes it: `p*err + i*integral + d*((err - lastErr)/dt)`. -/
def pidOut (e ep J t : ℚ) : ℚ :=
  fl64 (fl64 (fl64 (gP * e) + fl64 (gI * J)) + fl64 (gD * fl64 ((e - ep) / t)))

/-- `float64(current) + result`. -/
def pidS (x e ep J t : ℚ) : ℚ := fl64 (x + pidOut e ep J t)

/-- operand sizes under which a cycle stays in the finite part of binary64 (`e` the error). -/
structure CycOk (x ep : Int) (e I t : ℚ) : Prop where
  x0 : 0 ≤ x
  x1 : x ≤ 255
  ep : |ep| ≤ 255
  e_abs : |e| ≤ 255
  I : |I| ≤ 2 ^ 21
  /-- any positive bound below the shortest tick (50 ms) would do; with `1/32` the derivative quotient
      is at most `510 · 32 < 2^14` (`d_pre`). -/
  t0 : 1 / 32 ≤ t
  et : |e * t| ≤ 2 ^ 21

/-- the PID output in exact arithmetic with the decimal gains, `I` the integral BEFORE this cycle. -/
def uExact (e ep I t : ℚ) : ℚ := 3 / 10 * e + 1 / 50 * (I + e * t) + 1 / 200 * ((e - ep) / t)

section bounds
variable {x ep : Int} {e I t : ℚ}

theorem CycOk.J_pre (h : CycOk x ep e I t) : |I + fl64 (e * t)| ≤ 2 ^ 22 :=
  (abs_add_le' h.I (abs_fl64_le_two_pow 21 h.et)).trans (by norm_num)

theorem CycOk.J_abs (h : CycOk x ep e I t) : |pidJ I e t| ≤ 2 ^ 22 :=
  abs_fl64_le_two_pow 22 h.J_pre

theorem CycOk.d_pre (h : CycOk x ep e I t) : |(e - (ep : ℚ)) / t| ≤ 2 ^ 14 := by
  have hep : |(ep : ℚ)| ≤ 255 := by exact_mod_cast h.ep
  exact (abs_div_le' (abs_sub_le_of_abs_le h.e_abs hep) (by norm_num) h.t0).trans (by norm_num)

theorem CycOk.pe_pre (h : CycOk x ep e I t) : |gP * e| ≤ 2 ^ 8 :=
  (abs_mul_le' gP_abs h.e_abs).trans (by norm_num)

theorem CycOk.iJ_pre (h : CycOk x ep e I t) : |gI * pidJ I e t| ≤ 2 ^ 17 :=
  (abs_mul_le' gI_abs h.J_abs).trans (by norm_num)

theorem CycOk.dD_pre (h : CycOk x ep e I t) : |gD * fl64 ((e - (ep : ℚ)) / t)| ≤ 2 ^ 7 :=
  (abs_mul_le' gD_abs (abs_fl64_le_two_pow 14 h.d_pre)).trans (by norm_num)

theorem CycOk.s1_pre (h : CycOk x ep e I t) :
    |fl64 (gP * e) + fl64 (gI * pidJ I e t)| ≤ 2 ^ 18 :=
  (abs_add_le' (abs_fl64_le_two_pow 8 h.pe_pre) (abs_fl64_le_two_pow 17 h.iJ_pre)).trans
    (by norm_num)

theorem CycOk.out_pre (h : CycOk x ep e I t) :
    |fl64 (fl64 (gP * e) + fl64 (gI * pidJ I e t)) + fl64 (gD * fl64 ((e - (ep : ℚ)) / t))|
      ≤ 2 ^ 19 :=
  (abs_add_le' (abs_fl64_le_two_pow 18 h.s1_pre) (abs_fl64_le_two_pow 7 h.dD_pre)).trans
    (by norm_num)

theorem CycOk.S_pre (h : CycOk x ep e I t) : |(x : ℚ) + pidOut e ep (pidJ I e t) t| ≤ 2 ^ 20 := by
  have hx : |(x : ℚ)| ≤ 255 := by
    have : |x| ≤ 255 := by rw [abs_le]; constructor <;> linarith [h.x0, h.x1]
    exact_mod_cast this
  exact (abs_add_le' hx (abs_fl64_le_two_pow 19 h.out_pre)).trans (by norm_num)

end bounds

theorem pidJ_close {x ep : Int} {e I t : ℚ} (h : CycOk x ep e I t) :
    |pidJ I e t - (I + e * t)| ≤ 1 / 2 ^ 30 :=
  fl64_add_close h.J_pre (A := 0) (by simp) (fl64_err_num h.et le_rfl) (by norm_num)

theorem pidS_close {x ep : Int} {e I t : ℚ} (h : CycOk x ep e I t) :
    |pidS x e ep (pidJ I e t) t - ((x : ℚ) + uExact e ep I t)| ≤ 1 / 2 ^ 31 := by
  -- one lemma per operation of `pidOut`, innermost first; `δ` is the error so far
  have da : |fl64 (gP * e) - 3 / 10 * e| ≤ 1 / 10 ^ 13 :=
    fl64_mul_close h.pe_pre gP_close h.e_abs (D := 0) (by simp) (by norm_num) (by norm_num)
  have db := fl64_mul_close h.iJ_pre gI_close h.J_abs (pidJ_close h) (δ := 7 / 10 ^ 11)
    (by norm_num) (by norm_num)
  have dD := fl64_err_num h.d_pre (δ := 1 / 10 ^ 11) (by norm_num)
  have dc := fl64_mul_close h.dD_pre gD_close (abs_fl64_le_two_pow 14 h.d_pre) dD
    (δ := 1 / 10 ^ 12) (by norm_num) (by norm_num)
  have dout := fl64_add_close h.out_pre
    (fl64_add_close h.s1_pre da db (δ := 1 / 10 ^ 10) (by norm_num)) dc (δ := 2 / 10 ^ 10)
    (by norm_num)
  exact fl64_add_close h.S_pre (A := 0) (by simp) dout (by norm_num)

theorem pidCycle_fin (indef : Int) {st : PidSt} {c x now last ep : Int} {I t : ℚ}
    (hp : st.p = ofRat (3 / 10)) (hi : st.i = ofRat (1 / 50)) (hd : st.d = ofRat (1 / 200))
    (he : st.error = fin (ep : ℚ)) (hI : st.integral = fin I) (hl : st.lastTime = some last)
    (ht : secondsOfNanos (now - last) = fin t) (hc0 : 0 ≤ c) (hc1 : c ≤ 255)
    (h : CycOk x ep ((c - x : Int) : ℚ) I t) :
    pidCycle indef st c x now =
      ({ st with integral := fin (pidJ I ((c - x : Int) : ℚ) t), error := fin ((c - x : Int) : ℚ),
                 lastTime := some now },
        clampRound (pidS x ((c - x : Int) : ℚ) ep (pidJ I ((c - x : Int) : ℚ) t) t)) := by
  have ht0 : t ≠ 0 := by linarith [h.t0]
  have hxx : |x| ≤ 2 ^ 53 := by rw [abs_le]; constructor <;> linarith [h.x0, h.x1]
  have hde : ofRat (((c - x : Int) : ℚ) - (ep : ℚ)) = fin (((c - x : Int) : ℚ) - (ep : ℚ)) := by
    have := abs_le.mp h.ep
    exact_mod_cast ofRat_intCast (n := c - x - ep)
      (by rw [abs_le]; constructor <;> linarith [hc0, hc1, h.x0, h.x1])
  -- the four size bounds that mention `pidJ`, `pidOut`: the `unfold … at *` has to reach them
  have hiJ := h.iJ_pre
  have hs1 := h.s1_pre
  have hout := h.out_pre
  have hS := h.S_pre
  unfold pidS pidOut pidJ at *
  unfold pidCycle pidLoop
  rw [hl]
  -- `target - current` first, while `float64(current)` still shows in it
  simp only [byte_ofInt_sub hc0 hc1 h.x0 h.x1]
  simp only [hp, hi, hd, he, hI, ht, ofRat_gP, ofRat_gI, ofRat_gD, ofInt_small hxx]
  -- each operation is `ofRat` of the exact result, and that is `fin (fl64 _)` by its size bound
  simp only [mul_fin_fin, add_fin_fin, sub_fin_fin, div_fin_fin _ ht0, hde,
    ofRat_fin_of_abs_le_two_pow 21 h.et, ofRat_fin_of_abs_le_two_pow 22 h.J_pre,
    ofRat_fin_of_abs_le_two_pow 14 h.d_pre, ofRat_fin_of_abs_le_two_pow 8 h.pe_pre,
    ofRat_fin_of_abs_le_two_pow 17 hiJ, ofRat_fin_of_abs_le_two_pow 7 h.dD_pre,
    ofRat_fin_of_abs_le_two_pow 18 hs1, ofRat_fin_of_abs_le_two_pow 19 hout,
    ofRat_fin_of_abs_le_two_pow 20 hS]
  exact congrArg _ (loopTail_fin indef _)

theorem pidJ_le {I e t : ℚ} (hI : Rep64 I) (ht : 0 ≤ t) (he : e ≤ 0) : pidJ I e t ≤ I := by
  unfold pidJ
  apply fl64_le_of_le_rep hI
  have : fl64 (e * t) ≤ 0 := fl64_nonpos (mul_nonpos_of_nonpos_of_nonneg he ht)
  linarith

theorem pidJ_ge {I e t : ℚ} (hI : Rep64 I) (ht : 0 ≤ t) (he : 0 ≤ e) : I ≤ pidJ I e t := by
  unfold pidJ
  apply le_fl64_of_rep_le hI
  have : 0 ≤ fl64 (e * t) := fl64_nonneg (mul_nonneg he ht)
  linarith

/-- one controller cycle on the identity range (fan min 0, max 255): the algorithm is called with the
    previous request as `current`; its result is clamped and mapped into the range as
    `calculateTargetPwm` does. State = PID memory × previous request. -/
def pidClosed (indef c : Int) (s : PidSt × Int) (now : Int) : PidSt × Int :=
  ((pidCycle indef s.1 c s.2 now).1, rescale indef (clamp255 (pidCycle indef s.1 c s.2 now).2) 0 255)

/-- the closed loop run: cycle `k` (producing state `k+1`) sees the curve value `cs k` and the clock
    reading `nows (k+1)`. -/
def pidRun (indef : Int) (cs : Nat → Int) (nows : Nat → Int) (s0 : PidSt × Int) : Nat → PidSt × Int
  | 0 => s0
  | k + 1 => pidClosed indef (cs k) (pidRun indef cs nows s0 k) (nows (k + 1))

theorem pidRun_succ (indef : Int) (cs nows : Nat → Int) (s0 : PidSt × Int) (k : Nat) :
    pidRun indef cs nows s0 (k + 1)
      = pidClosed indef (cs k) (pidRun indef cs nows s0 k) (nows (k + 1)) := rfl

/-- slack of the abstraction (covers every binary64 rounding of one cycle while `|integral| ≤ 2^21`). -/
def eps : ℚ := 1 / 2 ^ 30

theorem eps_val : eps = 1 / 1073741824 := by unfold eps; norm_num

/-- Abstract closed-loop cycle `(x, I, ep) ↦ (x', J)` on inputs in range. `y = x + uExact` is the
    EXACT real value of `current + output`; the new request is the rounding of `y` up to the slack
    `eps` near the half-integers, the new integral is `I + e·t` up to `eps`, and moves in the exact
    direction. `up`/`dn` leave the outcome open within `eps` on BOTH sides of a half-integer, where
    `x' = clampRound s` for some `|s − y| ≤ eps` would decide ties as `math.Round` does (away from
    zero): that relation is not closed under the symmetry `x ↦ 255 − x` (`AStep.mirror`). -/
structure AStep (c : Int) (t : ℚ) (x : Int) (I : ℚ) (ep : Int) (x' : Int) (J : ℚ) : Prop where
  c0 : 0 ≤ c
  c1 : c ≤ 255
  x0 : 0 ≤ x
  x1 : x ≤ 255
  ep_abs : |ep| ≤ 255
  x'0 : 0 ≤ x'
  x'1 : x' ≤ 255
  up : ∀ n : Int, 1 ≤ n → n ≤ 255 →
    (n : ℚ) - 1 / 2 + eps ≤ (x : ℚ) + uExact ((c - x : Int) : ℚ) ep I t → n ≤ x'
  dn : ∀ n : Int, 1 ≤ n → n ≤ 255 →
    (x : ℚ) + uExact ((c - x : Int) : ℚ) ep I t ≤ (n : ℚ) - 1 / 2 - eps → x' < n
  Jc : |J - (I + ((c - x : Int) : ℚ) * t)| ≤ eps
  Jle : c - x ≤ 0 → J ≤ I
  Jge : 0 ≤ c - x → I ≤ J
  Jrep : Rep64 J

theorem AStep.e_abs {c x ep x' : Int} {t I J : ℚ} (h : AStep c t x I ep x' J) :
    |((c - x : Int) : ℚ)| ≤ 255 :=
  byte_sub_abs_le h.c0 h.c1 h.x0 h.x1

theorem uExact_neg (e ep I t : ℚ) : uExact (-e) (-ep) (-I) t = - uExact e ep I t := by
  unfold uExact; ring

theorem AStep.mirror {c x ep x' : Int} {t I J : ℚ} (h : AStep c t x I ep x' J) :
    AStep (255 - c) t (255 - x) (-I) (-ep) (255 - x') (-J) := by
  obtain ⟨c0, c1, x0, x1, hep, x'0, x'1, up, dn, Jc, Jle, Jge, Jrep⟩ := h
  have hcast : (((255 - c) - (255 - x) : Int) : ℚ) = -((c - x : Int) : ℚ) := by push_cast; ring
  have hy : ((255 - x : Int) : ℚ)
        + uExact (((255 - c) - (255 - x) : Int) : ℚ) ((-ep : Int) : ℚ) (-I) t
      = 255 - ((x : ℚ) + uExact ((c - x : Int) : ℚ) ep I t) := by
    rw [hcast]; push_cast; rw [uExact_neg]; ring
  refine ⟨by omega, by omega, by omega, by omega, by rwa [abs_neg], by omega, by omega,
    ?_, ?_, ?_, ?_, ?_, Jrep.neg⟩
  · intro n h1 h2 hn
    rw [hy] at hn
    have := dn (256 - n) (by omega) (by omega) (by
      simp only [Int.cast_sub, Int.cast_ofNat] at hn ⊢; linarith)
    omega
  · intro n h1 h2 hn
    rw [hy] at hn
    have := up (256 - n) (by omega) (by omega) (by
      simp only [Int.cast_sub, Int.cast_ofNat] at hn ⊢; linarith)
    omega
  · rw [hcast]
    have : -J - (-I + -((c - x : Int) : ℚ) * t) = -(J - (I + ((c - x : Int) : ℚ) * t)) := by ring
    rw [this, abs_neg]; exact Jc
  · intro he
    have := Jge (by omega); linarith
  · intro he
    have := Jle (by omega); linarith

structure PidGood (st : PidSt) (I : ℚ) (ep last : Int) : Prop where
  p : st.p = ofRat (3 / 10)
  i : st.i = ofRat (1 / 50)
  d : st.d = ofRat (1 / 200)
  error : st.error = fin (ep : ℚ)
  integral : st.integral = fin I
  lastTime : st.lastTime = some last
  rep : Rep64 I

theorem CycOk.of_tick {c x ep : Int} {I t : ℚ} (hc0 : 0 ≤ c) (hc1 : c ≤ 255) (hx0 : 0 ≤ x)
    (hx1 : x ≤ 255) (hep : |ep| ≤ 255) (hI : |I| ≤ 2 ^ 21) (ht0 : 1 / 32 ≤ t) (ht1 : t ≤ 2) :
    CycOk x ep ((c - x : Int) : ℚ) I t := by
  have he := byte_sub_abs_le hc0 hc1 hx0 hx1
  refine ⟨hx0, hx1, hep, he, hI, ht0, ?_⟩
  have hta : |t| ≤ 2 := by rw [abs_of_nonneg (by linarith)]; exact ht1
  exact (abs_mul_le' he hta).trans (by norm_num)

theorem pidClosed_refines (indef : Int) {st : PidSt} {I t : ℚ} {ep last c x now : Int}
    (g : PidGood st I ep last) (ht : secondsOfNanos (now - last) = fin t) (hc0 : 0 ≤ c) (hc1 : c ≤ 255)
    (h : CycOk x ep ((c - x : Int) : ℚ) I t) :
    ∃ (st' : PidSt) (x' : Int) (J : ℚ),
      pidClosed indef c (st, x) now = (st', x') ∧ PidGood st' J (c - x) now ∧
      AStep c t x I ep x' J := by
  have hcyc := pidCycle_fin indef g.p g.i g.d g.error g.integral g.lastTime ht hc0 hc1 h
  have hr := clampRound_range (pidS x ((c - x : Int) : ℚ) ep (pidJ I ((c - x : Int) : ℚ) t) t)
  have hS := abs_le.mp (pidS_close h)
  have ht0 : 0 ≤ t := by linarith [h.t0]
  refine ⟨PidSt.mk st.p st.i st.d (fin ((c - x : Int) : ℚ)) (fin (pidJ I ((c - x : Int) : ℚ) t))
      (some now),
    clampRound (pidS x ((c - x : Int) : ℚ) ep (pidJ I ((c - x : Int) : ℚ) t) t),
    pidJ I ((c - x : Int) : ℚ) t, ?_, ?_, ?_⟩
  · unfold pidClosed
    simp only [hcyc]
    rw [clamp255_id hr.1 hr.2, rescale_id indef hr.1 hr.2]
  · exact ⟨g.p, g.i, g.d, rfl, rfl, rfl, rep64_fl64 _⟩
  · refine ⟨hc0, hc1, h.x0, h.x1, h.ep, hr.1, hr.2, ?_, ?_, ?_, ?_, ?_, rep64_fl64 _⟩
    · intro n h1 h2 hy
      rw [le_clampRound_iff h1 h2]
      linarith only [hy, hS.1, eps_val]
    · intro n h1 h2 hy
      rw [clampRound_lt_iff h1 h2]
      linarith only [hy, hS.2, eps_val]
    · exact pidJ_close h
    · intro he
      exact pidJ_le g.rep ht0 (by exact_mod_cast he)
    · intro he
      exact pidJ_ge g.rep ht0 (by exact_mod_cast he)

/-- the tick periods of the property: `t` is the `Seconds()` value of a period in 50 ms .. 2 s. -/
structure TickOk (t : ℚ) : Prop where
  /-- 50 ms less the rounding of `Seconds()` (at most `2^-50`, `secondsOfNanos_tick`). -/
  t0 : 499 / 10000 ≤ t
  t1 : t ≤ 2

theorem TickOk.mul_abs {e t : ℚ} (ht : TickOk t) (he : |e| ≤ 255) : |e * t| ≤ 510 := by
  have hta : |t| ≤ 2 := by rw [abs_of_nonneg (by linarith [ht.t0])]; exact ht.t1
  exact (abs_mul_le' he hta).trans (by norm_num)

theorem uExact_close {e ep I t : ℚ} (he : |e| ≤ 255) (hep : |ep| ≤ 255) (ht0 : 499 / 10000 ≤ t) :
    |uExact e ep I t - (3 / 10 * e + 1 / 50 * (I + e * t))| ≤ 256 / 5 := by
  rw [show uExact e ep I t - (3 / 10 * e + 1 / 50 * (I + e * t)) = 1 / 200 * ((e - ep) / t) by
    unfold uExact; ring]
  exact (abs_mul_le' (a := 1 / 200) (A := 1 / 200) (by norm_num [abs_of_pos])
    (abs_div_le' (abs_sub_le_of_abs_le he hep) (by norm_num) ht0)).trans (by norm_num)

/-- 19200: see `AInv`. No upper bound on the tick: the step after a pause of any length saturates
    too (`windup_first`). -/
theorem AStep.sat_hi {c x ep x' : Int} {t I J : ℚ} (h : AStep c t x I ep x' J)
    (ht0 : 499 / 10000 ≤ t) (hJ : 19200 ≤ J) : x' = 255 := by
  have he := abs_le.mp h.e_abs
  have hu := abs_le.mp (uExact_close (ep := ep) (I := I) h.e_abs (by exact_mod_cast h.ep_abs) ht0)
  have hJc := abs_le.mp h.Jc
  have hx0q : (0 : ℚ) ≤ x := by exact_mod_cast h.x0
  have := h.up 255 (by norm_num) le_rfl (by
    rw [Int.cast_ofNat]; linarith only [hJ, hJc.2, hu.1, he.1, hx0q, eps_val])
  have := h.x'1; omega

theorem AStep.sat_lo {c x ep x' : Int} {t I J : ℚ} (h : AStep c t x I ep x' J)
    (ht0 : 499 / 10000 ≤ t) (hJ : J ≤ -19200) : x' = 0 := by
  have := h.mirror.sat_hi ht0 (by linarith)
  omega

/-- the invariant: the integral is bounded, and whenever it is large the request is saturated on the
    matching side (so that the error can only drive the integral back). 19200: the integral term
    `1/50 · 19200 = 384` outweighs the span 254.5 of the scale plus the largest proportional term
    `3/10 · 255 = 76.5` plus the largest derivative term 51.2 (`uExact_close`); 20000: an integral
    below 19200 grows by at most `|e·t| ≤ 510` (`TickOk.mul_abs`) in one cycle. -/
def AInv (x : Int) (I : ℚ) : Prop := |I| ≤ 20000 ∧ (19200 ≤ I → x = 255) ∧ (I ≤ -19200 → x = 0)

theorem AInv.mirror {x : Int} {I : ℚ} (h : AInv x I) : AInv (255 - x) (-I) :=
  ⟨by rw [abs_neg]; exact h.1, fun hI => by have := h.2.2 (by linarith); omega,
    fun hI => by have := h.2.1 (by linarith); omega⟩

theorem AStep.inv_hi {c x ep x' : Int} {t I J : ℚ} (h : AStep c t x I ep x' J) (ht : TickOk t)
    (hinv : AInv x I) : J ≤ 20000 := by
  by_cases hl : 19200 ≤ I
  · -- the request is 255, so the error is not positive and the integral does not grow
    have hx := hinv.2.1 hl
    have hc1 := h.c1
    linarith only [h.Jle (by omega), (abs_le.mp hinv.1).2]
  · linarith only [not_le.mp hl, (abs_le.mp h.Jc).2, (abs_le.mp (ht.mul_abs h.e_abs)).2, eps_val]

theorem AStep.inv {c x ep x' : Int} {t I J : ℚ} (h : AStep c t x I ep x' J) (ht : TickOk t)
    (hinv : AInv x I) : AInv x' J := by
  have hlo := h.mirror.inv_hi ht hinv.mirror
  exact ⟨abs_le.mpr ⟨by linarith only [hlo], h.inv_hi ht hinv⟩, h.sat_hi ht.t0, h.sat_lo ht.t0⟩

def intOf (st : PidSt) : ℚ := match st.integral with | fin q => q | _ => 0
/-- the stored previous error, an integer in every state a run reaches (0 if not finite). -/
def errOf (st : PidSt) : Int := match st.error with | fin q => ⌊q⌋ | _ => 0
def secOf (d : Int) : ℚ := match secondsOfNanos d with | fin q => q | _ => 0

theorem PidGood.intOf_eq {st : PidSt} {I : ℚ} {ep last : Int} (g : PidGood st I ep last) :
    intOf st = I := by unfold intOf; rw [g.integral]
theorem PidGood.errOf_eq {st : PidSt} {I : ℚ} {ep last : Int} (g : PidGood st I ep last) :
    errOf st = ep := by unfold errOf; rw [g.error]; simp

/-- the closed-loop state without `AInv`: what a cycle keeps after a pause of any length that leaves
    the operands finite (`RunSt0.step`). -/
structure RunSt0 (s : PidSt × Int) (last : Int) : Prop where
  good : PidGood s.1 (intOf s.1) (errOf s.1) last
  x0 : 0 ≤ s.2
  x1 : s.2 ≤ 255
  ep : |errOf s.1| ≤ 255

structure RunSt (s : PidSt × Int) (last : Int) : Prop extends RunSt0 s last where
  inv : AInv s.2 (intOf s.1)

theorem RunSt0.of_good {st : PidSt} {I : ℚ} {ep last x : Int} (g : PidGood st I ep last)
    (hx0 : 0 ≤ x) (hx1 : x ≤ 255) (hep : |ep| ≤ 255) : RunSt0 (st, x) last :=
  ⟨by rw [g.intOf_eq, g.errOf_eq]; exact g, hx0, hx1, by rw [g.errOf_eq]; exact hep⟩

/-- a PID loop as `NewPidLoop(0.3, 0.02, 0.005)` creates it. -/
def pidFresh : PidSt := { p := ofRat (3 / 10), i := ofRat (1 / 50), d := ofRat (1 / 200) }

theorem pidFresh_first (indef : Int) {c x now : Int} (hc0 : 0 ≤ c) (hc1 : c ≤ 255) (hx0 : 0 ≤ x)
    (hx1 : x ≤ 255) :
    RunSt (pidClosed indef c (pidFresh, x) now) now ∧
    (pidClosed indef c (pidFresh, x) now).2 = x ∧
    intOf (pidClosed indef c (pidFresh, x) now).1 = 0 ∧
    errOf (pidClosed indef c (pidFresh, x) now).1 = c - x := by
  have hcl : pidClosed indef c (pidFresh, x) now
      = ({ pidFresh with error := fin ((c - x : Int) : ℚ), lastTime := some now }, x) := by
    unfold pidClosed
    rw [pidCycle_first indef c now rfl (by rw [abs_le]; constructor <;> omega),
      byte_ofInt_sub hc0 hc1 hx0 hx1, clamp255_id hx0 hx1, clamp255_id hx0 hx1,
      rescale_id indef hx0 hx1]
  have g : PidGood { pidFresh with error := fin ((c - x : Int) : ℚ), lastTime := some now } 0
      (c - x) now := ⟨rfl, rfl, rfl, rfl, rfl, rfl, fl64_zero⟩
  rw [hcl]
  refine ⟨⟨.of_good g hx0 hx1 (by rw [abs_le]; constructor <;> omega), ?_⟩, rfl, g.intOf_eq,
    g.errOf_eq⟩
  show AInv x (intOf _)
  rw [g.intOf_eq]
  exact ⟨by norm_num, fun h => by norm_num at h, fun h => by norm_num at h⟩

/-- `Duration.Seconds()` is the whole seconds plus the rounded fraction `float64(nsec)/1e9`, rounded
    once more. -/
theorem secondsOfNanos_tick {d : Int} (h0 : 50000000 ≤ d) (h1 : d ≤ 2000000000) :
    secondsOfNanos d = fin (secOf d) ∧ TickOk (secOf d) ∧
      |secOf d - (d : ℚ) / 1000000000| ≤ 1 / 2 ^ 50 := by
  have hd0 : 0 ≤ d := by omega
  have hq : Int.tdiv d 1000000000 = d / 1000000000 := Int.tdiv_eq_ediv_of_nonneg hd0
  have hr : Int.tmod d 1000000000 = d % 1000000000 := Int.tmod_eq_emod_of_nonneg hd0
  have hq0 : 0 ≤ d / 1000000000 := by omega
  have hq2 : d / 1000000000 ≤ 2 := by omega
  have hr0 : 0 ≤ d % 1000000000 := by omega
  have hr1 : d % 1000000000 < 1000000000 := by omega
  have hdecomp : d = 1000000000 * (d / 1000000000) + d % 1000000000 := by omega
  -- for `secOf d ≤ 2`: the whole seconds are 2 only at exactly 2 s, and there the fraction is 0
  have hfull : d / 1000000000 = 2 → d % 1000000000 = 0 := by omega
  generalize d / 1000000000 = q at *
  generalize d % 1000000000 = r at *
  have hrq0 : (0 : ℚ) ≤ r := by exact_mod_cast hr0
  have hrq1 : (r : ℚ) ≤ 1000000000 := by exact_mod_cast hr1.le
  have hqq0 : (0 : ℚ) ≤ q := by exact_mod_cast hq0
  have hqq2 : (q : ℚ) ≤ 2 := by exact_mod_cast hq2
  obtain ⟨hfl0, hfl1⟩ := fl64_div_mem_unit hrq0 hrq1
  have hfa : |(r : ℚ) / 1000000000| ≤ 2 ^ 0 := by
    rw [abs_of_nonneg (by positivity), pow_zero]; exact div_le_one_of_le₀ hrq1 (by norm_num)
  have hsum : |(q : ℚ) + fl64 ((r : ℚ) / 1000000000)| ≤ 2 ^ 2 := by
    rw [abs_of_nonneg (by linarith only [hqq0, hfl0])]; norm_num; linarith only [hqq2, hfl1]
  have e : secondsOfNanos d = fin (fl64 ((q : ℚ) + fl64 ((r : ℚ) / 1000000000))) := by
    unfold secondsOfNanos
    simp only [hq, hr]
    rw [ofInt_small (by rw [abs_le]; constructor <;> omega),
      ofInt_small (by rw [abs_le]; constructor <;> omega), ofInt_small (by norm_num)]
    show (fin (q : ℚ) + fin (r : ℚ) / fin ((1000000000 : Int) : ℚ) : F64) = _
    rw [div_fin_fin _ (by norm_num), ofRat_fin_of_abs_le_two_pow 0 (by push_cast; exact hfa),
      add_fin_fin, ofRat_fin_of_abs_le_two_pow 2 (by push_cast at hsum ⊢; exact hsum)]
    push_cast; rfl
  have hs : secOf d = fl64 ((q : ℚ) + fl64 ((r : ℚ) / 1000000000)) := by unfold secOf; rw [e]
  have hc : |fl64 ((q : ℚ) + fl64 ((r : ℚ) / 1000000000)) - (d : ℚ) / 1000000000| ≤ 1 / 2 ^ 50 := by
    have hdq : (d : ℚ) / 1000000000 = (q : ℚ) + (r : ℚ) / 1000000000 := by
      rw [hdecomp]; push_cast; ring
    rw [hdq]
    exact fl64_add_close hsum (A := 0) (by simp) (fl64_err_num hfa le_rfl) (by norm_num)
  rw [hs]
  refine ⟨e, ⟨?_, ?_⟩, hc⟩
  · have : (50000000 : ℚ) ≤ d := by exact_mod_cast h0
    linarith only [(abs_le.mp hc).1, this]
  · apply fl64_le_of_le_rep (rep64_intCast 2 (by norm_num))
    push_cast
    rcases eq_or_lt_of_le hq2 with e2 | l
    · have := hfull e2
      subst e2; rw [this]; simp [fl64_zero]
    · have : (q : ℚ) ≤ 1 := by exact_mod_cast (by omega : q ≤ 1)
      linarith only [this, hfl1]

theorem RunSt0.step (indef : Int) {s : PidSt × Int} {last c now : Int} {t : ℚ} (r : RunSt0 s last)
    (hc0 : 0 ≤ c) (hc1 : c ≤ 255) (hsec : secondsOfNanos (now - last) = fin t)
    (h : CycOk s.2 (errOf s.1) ((c - s.2 : Int) : ℚ) (intOf s.1) t) :
    RunSt0 (pidClosed indef c s now) now ∧
    errOf (pidClosed indef c s now).1 = c - s.2 ∧
    AStep c t s.2 (intOf s.1) (errOf s.1) (pidClosed indef c s now).2
      (intOf (pidClosed indef c s now).1) := by
  obtain ⟨st, x⟩ := s
  obtain ⟨st', x', J, hcl, g', ha⟩ := pidClosed_refines indef r.good hsec hc0 hc1 h
  rw [hcl]
  simp only
  rw [g'.intOf_eq]
  exact ⟨.of_good g' ha.x'0 ha.x'1 (by rw [abs_le]; constructor <;> linarith [r.x0, r.x1]),
    g'.errOf_eq, ha⟩

theorem RunSt.step (indef : Int) {s : PidSt × Int} {last c now : Int} (r : RunSt s last)
    (hc0 : 0 ≤ c) (hc1 : c ≤ 255) (h0 : 50000000 ≤ now - last) (h1 : now - last ≤ 2000000000) :
    RunSt (pidClosed indef c s now) now ∧
    errOf (pidClosed indef c s now).1 = c - s.2 ∧
    TickOk (secOf (now - last)) ∧
    AStep c (secOf (now - last)) s.2 (intOf s.1) (errOf s.1) (pidClosed indef c s now).2
      (intOf (pidClosed indef c s now).1) := by
  obtain ⟨hsec, htick, _⟩ := secondsOfNanos_tick h0 h1
  obtain ⟨r', hE, ha⟩ := r.toRunSt0.step indef hc0 hc1 hsec (CycOk.of_tick hc0 hc1 r.x0 r.x1 r.ep
    (r.inv.1.trans (by norm_num)) (by linarith [htick.t0]) htick.t1)
  exact ⟨⟨r', ha.inv htick r.inv⟩, hE, htick, ha⟩

theorem pidRun_runSt (indef : Int) (cs : Nat → Int) (nows : Nat → Int) (s0 : PidSt × Int)
    (r0 : RunSt s0 (nows 0)) (hcs : ∀ k, 0 ≤ cs k ∧ cs k ≤ 255)
    (hticks : ∀ k, 50000000 ≤ nows (k + 1) - nows k ∧ nows (k + 1) - nows k ≤ 2000000000) :
    ∀ k, RunSt (pidRun indef cs nows s0 k) (nows k) := by
  intro k
  induction k with
  | zero => exact r0
  | succ k ih =>
    exact (ih.step indef (hcs k).1 (hcs k).2 (hticks k).1 (hticks k).2).1

end Fan2go
