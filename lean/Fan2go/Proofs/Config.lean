/-
  Proofs about `Model/Config.lean` (the validator): what acceptance means (`validateConfig_ok`), the
  reachability closure behind the cycle check, and that the documented forms are accepted.
  Property C11; evaluation of what is accepted is `Proofs/ConfigEval.lean`.
-/
import Mathlib.Tactic.Tauto
import Mathlib.Data.Finset.Card
import Mathlib.Logic.Relation
import Mathlib.Data.List.Nodup
import Fan2go.Model.Config

namespace Fan2go
namespace Cfg
open Relation

/-- fan ids, sensor ids and curve ids are each pairwise distinct -/
def uniqueIds (c : Configuration) : Prop :=
  (c.sensors.map (·.id)).Nodup ∧ (c.curves.map (·.id)).Nodup ∧ (c.fans.map (·.id)).Nodup

/-- every entry has exactly one sub-configuration ("backend") -/
def oneBackend (c : Configuration) : Prop :=
  (∀ s ∈ c.sensors, s.subConfigs = 1) ∧ (∀ cc ∈ c.curves, cc.subConfigs = 1) ∧
  (∀ f ∈ c.fans, f.subConfigs = 1)

def SensorDefined (c : Configuration) (id : String) : Prop := ∃ s ∈ c.sensors, s.id = id
def CurveDefined (c : Configuration) (id : String) : Prop := ∃ cc ∈ c.curves, cc.id = id

/-- every sensor id of a linear/pid curve, every member id of a function curve and every curve
    id of a fan names an existing entry -/
def refsResolve (c : Configuration) : Prop :=
  (∀ cc ∈ c.curves, ∀ l, cc.linear = some l → SensorDefined c l.sensor) ∧
  (∀ cc ∈ c.curves, ∀ p, cc.pid = some p → SensorDefined c p.sensor) ∧
  (∀ cc ∈ c.curves, ∀ f, cc.function = some f → ∀ m ∈ f.curves, CurveDefined c m) ∧
  (∀ f ∈ c.fans, CurveDefined c f.curve)

/-- `MemberOf c u v`: a function curve with id `u` lists `v` among its members -/
def MemberOf (c : Configuration) (u v : String) : Prop :=
  ∃ cc ∈ c.curves, cc.id = u ∧ ∃ f, cc.function = some f ∧ v ∈ f.curves

/-- no function curve lists itself -/
def NoSelfRef (c : Configuration) : Prop := ∀ u, ¬ MemberOf c u u

/-- no function curve reaches itself through members (in one or more steps) -/
def Acyclic (c : Configuration) : Prop := ∀ u, ¬ TransGen (MemberOf c) u u

/-- every function curve has at least one member -/
def FunctionsNonempty (c : Configuration) : Prop :=
  ∀ cc ∈ c.curves, ∀ f, cc.function = some f → f.curves ≠ []

/-- no linear curve has an empty non-nil step map -/
def NoEmptySteps (c : Configuration) : Prop :=
  ∀ cc ∈ c.curves, ∀ l, cc.linear = some l → l.steps ≠ some []

/-- what `initializeFanControllers` needs to build a (non-nil) control loop -/
def AlgoInstantiable (c : Configuration) : Prop :=
  ∀ f ∈ c.fans, ∀ ca, f.controlAlgorithm = some ca → ca.direct.isSome = true ∨ ca.pid.isSome = true

@[simp] theorem check_ok (b : Bool) (e : VErr) : check b e = .ok () ↔ b = false := by
  cases b <;> simp [check]

@[simp] theorem seq_ok (a b : Except VErr Unit) : (a >>> b) = .ok () ↔ a = .ok () ∧ b = .ok () := by
  cases a with
  | error e => simp [seq]
  | ok u => cases u; simp [seq]

theorem idLoop_ok {α : Type} (getId : α → String) (dup : String → VErr)
    (body : α → Except VErr Unit) (seen : List String) (l : List α) :
    idLoop getId dup body seen l = .ok () ↔
      seen.Disjoint (l.map getId) ∧ (l.map getId).Nodup ∧ ∀ x ∈ l, body x = .ok () := by
  induction l generalizing seen with
  | nil => simp [idLoop]
  | cons x rest ih =>
    simp only [idLoop, seq_ok, check_ok, ih, List.map_cons, List.nodup_cons, List.forall_mem_cons,
      List.disjoint_append_left, List.disjoint_cons_right, List.singleton_disjoint,
      List.contains_eq_mem, decide_eq_false_iff_not]
    tauto

theorem sensorIdExists_iff (id : String) (c : Configuration) :
    sensorIdExists id c = true ↔ SensorDefined c id := by
  simp [sensorIdExists, SensorDefined]

theorem curveIdExists_iff (id : String) (c : Configuration) :
    curveIdExists id c = true ↔ CurveDefined c id := by
  simp [curveIdExists, CurveDefined]

structure SensorOk (s : SensorConfig) : Prop where
  one : s.subConfigs = 1
  index : ∀ idx, s.hwmon = some idx → 0 < idx

theorem validateSensorEntry_ok (s : SensorConfig) : validateSensorEntry s = .ok () ↔ SensorOk s := by
  simp only [validateSensorEntry, seq_ok, check_ok, decide_eq_false_iff_not]
  constructor
  · rintro ⟨h1, h2, h3⟩
    refine ⟨by omega, fun idx hidx => ?_⟩
    rw [hidx] at h3
    simpa using h3
  · rintro ⟨h1, h2⟩
    refine ⟨by omega, by omega, ?_⟩
    cases h : s.hwmon with
    | none => rfl
    | some idx => simpa using h2 idx h

theorem validateMembers_ok (c : Configuration) (id : String) (ms : List String) :
    validateMembers c id ms = .ok () ↔ ∀ m ∈ ms, m ≠ id ∧ CurveDefined c m := by
  induction ms with
  | nil => simp [validateMembers]
  | cons m ms ih =>
    simp only [validateMembers, seq_ok, check_ok, ih, List.mem_cons, forall_eq_or_imp,
      Bool.not_eq_false', curveIdExists_iff, beq_eq_false_iff_ne, and_assoc]

theorem validateFunction_ok (c : Configuration) (id : String) (fo : Option FunctionCfg) :
    validateFunction c id fo = .ok () ↔
      ∀ f, fo = some f → f.type ∈ supportedTypes ∧ f.curves ≠ [] ∧
        ∀ m ∈ f.curves, m ≠ id ∧ CurveDefined c m := by
  cases fo with
  | none => simp [validateFunction]
  | some f =>
    simp [validateFunction, validateMembers_ok]

theorem validateLinear_ok (c : Configuration) (id : String) (lo : Option LinearCfg) :
    validateLinear c id lo = .ok () ↔
      ∀ l, lo = some l → l.sensor ≠ "" ∧ SensorDefined c l.sensor ∧ l.steps ≠ some [] := by
  cases lo with
  | none => simp [validateLinear]
  | some l =>
    obtain ⟨sensor, mn, mx, steps⟩ := l
    rcases steps with _ | _ | ⟨a, as⟩ <;>
      simp [validateLinear, sensorIdExists_iff, String.length_eq_zero_iff]

theorem validatePid_ok (c : Configuration) (id : String) (po : Option PidCfg) :
    validatePid c id po = .ok () ↔
      ∀ p, po = some p → p.sensor ≠ "" ∧ SensorDefined c p.sensor ∧ allZero p.p p.i p.d = false := by
  cases po with
  | none => simp [validatePid]
  | some p =>
    simp [validatePid, sensorIdExists_iff, String.length_eq_zero_iff]

/-- the last three fields are the right-hand sides of `validateFunction_ok`, `validateLinear_ok`,
    `validatePid_ok` at `id := cc.id`, so that `validateCurveEntry_ok` can rewrite with them -/
structure CurveOk (c : Configuration) (cc : CurveConfig) : Prop where
  one : cc.subConfigs = 1
  function : ∀ f, cc.function = some f → f.type ∈ supportedTypes ∧ f.curves ≠ [] ∧
    ∀ m ∈ f.curves, m ≠ cc.id ∧ CurveDefined c m
  linear : ∀ l, cc.linear = some l → l.sensor ≠ "" ∧ SensorDefined c l.sensor ∧ l.steps ≠ some []
  pid : ∀ p, cc.pid = some p → p.sensor ≠ "" ∧ SensorDefined c p.sensor ∧ allZero p.p p.i p.d = false

theorem validateCurveEntry_ok (c : Configuration) (cc : CurveConfig) :
    validateCurveEntry c cc = .ok () ↔ CurveOk c cc := by
  simp only [validateCurveEntry, seq_ok, check_ok, decide_eq_false_iff_not, validateFunction_ok,
    validateLinear_ok, validatePid_ok]
  exact ⟨fun ⟨h1, h2, hf, hl, hp⟩ => ⟨by omega, hf, hl, hp⟩,
    fun ⟨h1, hf, hl, hp⟩ => ⟨by omega, by omega, hf, hl, hp⟩⟩

theorem validateCtrlAlg_some (id : String) (ca : CtrlAlgCfg)
    (h : validateCtrlAlg id (some ca) = .ok ()) : ca.direct.isSome = true ∨ ca.pid.isSome = true := by
  simp only [validateCtrlAlg, seq_ok, check_ok] at h
  obtain ⟨d, p⟩ := ca
  cases d <;> cases p <;> simp_all

structure FanOk (c : Configuration) (f : FanConfig) : Prop where
  one : f.subConfigs = 1
  curveId : f.curve ≠ ""
  curve : CurveDefined c f.curve
  algo : validateCtrlAlg f.id f.controlAlgorithm = .ok ()
  hwmon : validateFanHwMon f.id f.hwmon = .ok ()
  file : validateFanFile f.id f.file = .ok ()
  cmd : validateFanCmd f.id f.cmd = .ok ()

theorem validateFanEntry_ok (c : Configuration) (f : FanConfig) :
    validateFanEntry c f = .ok () ↔ FanOk c f := by
  simp only [validateFanEntry, seq_ok, check_ok, decide_eq_false_iff_not, Bool.not_eq_false',
    curveIdExists_iff, Nat.le_zero, String.length_eq_zero_iff]
  exact ⟨fun ⟨h1, h2, h3, h4, ha, hh, hf, hc⟩ => ⟨by omega, h3, h4, ha, hh, hf, hc⟩,
    fun ⟨h1, h3, h4, ha, hh, hf, hc⟩ => ⟨by omega, by omega, h3, h4, ha, hh, hf, hc⟩⟩

structure Accepted (c : Configuration) (permOk : Bool) : Prop where
  ids : uniqueIds c
  sensor : ∀ s ∈ c.sensors, SensorOk s
  curve : ∀ cc ∈ c.curves, CurveOk c cc
  noCycle : hasCycle (buildGraph c) = false
  perm : (containsCmd c && !permOk) = false
  fan : ∀ f ∈ c.fans, FanOk c f

theorem validateConfig_ok (c : Configuration) (permOk : Bool) :
    validateConfig c permOk = .ok () ↔ Accepted c permOk := by
  simp only [validateConfig, validateSensors, validateCurves, validateNoLoops, validateFans,
    seq_ok, check_ok, idLoop_ok, validateSensorEntry_ok, validateCurveEntry_ok,
    validateFanEntry_ok, List.disjoint_nil_left, true_and]
  exact ⟨fun ⟨⟨hs, hs'⟩, ⟨⟨hc, hc'⟩, hcyc⟩, hp, hf, hf'⟩ => ⟨⟨hs, hc, hf⟩, hs', hc', hcyc, hp, hf'⟩,
    fun ⟨⟨hs, hc, hf⟩, hs', hc', hcyc, hp, hf'⟩ => ⟨⟨hs, hs'⟩, ⟨⟨hc, hc'⟩, hcyc⟩, hp, hf, hf'⟩⟩

theorem accepted {c : Configuration} {permOk : Bool} (h : validateConfig c permOk = .ok ()) :
    Accepted c permOk := (validateConfig_ok c permOk).1 h

def Edge (g : Graph) (u v : String) : Prop := v ∈ succs g u

theorem edge_iff (g : Graph) (u v : String) :
    Edge g u v ↔ ∃ p, g.find? (fun p => p.1 == u) = some p ∧ v ∈ p.2 := by
  unfold Edge succs
  cases g.find? fun p => p.1 == u <;> simp

theorem Edge.entry {g : Graph} {u v : String} (h : Edge g u v) : ∃ p ∈ g, p.1 = u ∧ v ∈ p.2 := by
  obtain ⟨p, hp, hv⟩ := (edge_iff g u v).1 h
  exact ⟨p, List.mem_of_find?_eq_some hp, by simpa using List.find?_some hp, hv⟩

theorem mem_addNew (xs S : List String) (x : String) : x ∈ addNew xs S ↔ x ∈ xs ∨ x ∈ S := by
  induction xs generalizing S with
  | nil => simp [addNew]
  | cons y ys ih =>
    by_cases h : y ∈ S
    · simp only [addNew, List.contains_eq_mem, h, decide_true, if_true, ih, List.mem_cons]
      exact ⟨Or.imp_left Or.inr, fun h' => h'.elim (·.elim (fun e => .inr (e ▸ h)) .inl) .inr⟩
    · simp only [addNew, List.contains_eq_mem, h, decide_false, Bool.false_eq_true, ↓reduceIte, ih,
        List.mem_append, List.mem_cons, List.not_mem_nil, or_false]
      tauto

theorem mem_stepSet (g : Graph) (S : List String) (x : String) :
    x ∈ stepSet g S ↔ x ∈ S ∨ ∃ s ∈ S, Edge g s x := by
  simp only [stepSet, mem_addNew, List.mem_flatMap, Edge]
  exact or_comm

theorem subset_closure (g : Graph) (n : Nat) (S : List String) : S ⊆ closure g n S := by
  induction n generalizing S with
  | zero => exact fun _ h => h
  | succ n ih => exact fun x hx => ih _ ((mem_stepSet g S x).2 (.inl hx))

theorem closure_sound (g : Graph) (n : Nat) (S : List String) (x : String) (hx : x ∈ closure g n S) :
    ∃ s ∈ S, ReflTransGen (Edge g) s x := by
  induction n generalizing S with
  | zero => exact ⟨x, hx, .refl⟩
  | succ n ih =>
    obtain ⟨s, hs, hsx⟩ := ih _ hx
    rcases (mem_stepSet g S s).1 hs with h | ⟨t, ht, hts⟩
    · exact ⟨s, h, hsx⟩
    · exact ⟨t, ht, .head hts hsx⟩

/-- the edge endpoints; `closureFuel g` is the length of this list, by `rfl` -/
def endpoints (g : Graph) : List String := g.flatMap (·.2)

theorem succs_subset_endpoints (g : Graph) (u : String) : succs g u ⊆ endpoints g :=
  fun v (hv : Edge g u v) =>
    let ⟨p, hp, _, hv⟩ := hv.entry
    List.mem_flatMap.2 ⟨p, hp, hv⟩

theorem stepSet_mono {g : Graph} {S T : List String} (h : S ⊆ T) : stepSet g S ⊆ stepSet g T := by
  intro x hx
  rw [mem_stepSet] at hx ⊢
  exact hx.imp (h ·) fun ⟨s, hs, hsx⟩ => ⟨s, h hs, hsx⟩

theorem card_lt_of_not_stable (g : Graph) (S : List String) (h : ¬ stepSet g S ⊆ S) :
    ((endpoints g).toFinset \ (stepSet g S).toFinset).card <
      ((endpoints g).toFinset \ S.toFinset).card := by
  obtain ⟨y, hy, hyS⟩ : ∃ y, y ∈ stepSet g S ∧ y ∉ S := by simpa [List.subset_def] using h
  have hyE : y ∈ endpoints g := ((mem_stepSet g S y).1 hy).elim (absurd · hyS)
    fun ⟨s, _, hsy⟩ => succs_subset_endpoints g s hsy
  refine Finset.card_lt_card ⟨fun a ha => ?_, fun hsub => ?_⟩
  · simp only [Finset.mem_sdiff, List.mem_toFinset] at ha ⊢
    exact ⟨ha.1, fun h => ha.2 ((mem_stepSet g S a).2 (.inl h))⟩
  · have := hsub (show y ∈ _ by simp [hyE, hyS])
    simp only [Finset.mem_sdiff, List.mem_toFinset] at this
    exact this.2 hy

/-- A round that adds nothing leaves a set no later round changes (`stepSet_mono`), so after as many
    rounds as there are endpoints outside `S` the closure is stable. The bound is asked for only while
    a round still adds something: one that adds nothing does not lower the count. -/
theorem closure_stable (g : Graph) (n : Nat) (S : List String)
    (hn : ¬ stepSet g S ⊆ S → ((endpoints g).toFinset \ S.toFinset).card ≤ n) :
    stepSet g (closure g n S) ⊆ closure g n S := by
  induction n generalizing S with
  | zero =>
    by_contra h
    exact Nat.not_lt_zero _ ((card_lt_of_not_stable g S h).trans_le (hn h))
  | succ n ih =>
    refine ih _ fun h' => ?_
    have h : ¬ stepSet g S ⊆ S := fun h => h' (stepSet_mono h)
    exact Nat.le_of_lt_succ ((card_lt_of_not_stable g S h).trans_le (hn h))

theorem reachable_iff (g : Graph) (u x : String) : x ∈ reachable g u ↔ TransGen (Edge g) u x := by
  constructor
  · intro h
    obtain ⟨s, hs, hsx⟩ := closure_sound g _ _ x h
    exact TransGen.head' hs hsx
  · intro h
    -- the fuel `closureFuel g` is `(endpoints g).length`, by `rfl`
    have hcl : stepSet g (reachable g u) ⊆ reachable g u :=
      closure_stable g _ _ fun _ =>
        (Finset.card_le_card Finset.sdiff_subset).trans (List.toFinset_card_le _)
    induction h with
    | single hux => exact subset_closure g _ _ hux
    | tail _ hbc ih => exact hcl ((mem_stepSet g _ _).2 (.inr ⟨_, ih, hbc⟩))

theorem key_of_transGen (g : Graph) (u v : String) (h : TransGen (Edge g) u v) : ∃ p ∈ g, p.1 = u := by
  obtain ⟨w, huw, _⟩ := TransGen.head'_iff.1 h
  obtain ⟨p, hp, hk, _⟩ := huw.entry
  exact ⟨p, hp, hk⟩

theorem hasCycle_iff (g : Graph) :
    hasCycle g = true ↔ ∃ u v, u ≠ v ∧ TransGen (Edge g) u v ∧ TransGen (Edge g) v u := by
  simp only [hasCycle, List.any_eq_true, Bool.and_eq_true, bne_iff_ne, ne_eq,
    List.contains_eq_mem, decide_eq_true_eq, reachable_iff]
  constructor
  · rintro ⟨p, _, q, _, ⟨hne, h1⟩, h2⟩
    exact ⟨p.1, q.1, hne, h1, h2⟩
  · rintro ⟨u, v, hne, h1, h2⟩
    obtain ⟨p, hp, rfl⟩ := key_of_transGen g u v h1
    obtain ⟨q, hq, rfl⟩ := key_of_transGen g v _ h2
    exact ⟨p, hp, q, hq, ⟨hne, h1⟩, h2⟩

/-- `hasCycle` misses exactly the self loops -/
theorem not_hasCycle_iff (g : Graph) (hself : ∀ u, ¬ Edge g u u) :
    hasCycle g = false ↔ ∀ u, ¬ TransGen (Edge g) u u := by
  rw [← Bool.not_eq_true, hasCycle_iff]
  constructor
  · intro hc u huu
    obtain ⟨w, huw, hwu⟩ := TransGen.head'_iff.1 huu
    rcases reflTransGen_iff_eq_or_transGen.1 hwu with rfl | h
    · exact hself _ huw
    · exact hc ⟨u, w, fun e => hself u (e ▸ huw), .single huw, h⟩
  · rintro h ⟨u, v, _, h1, h2⟩
    exact h u (h1.trans h2)

theorem mem_buildGraph (c : Configuration) (p : String × List String) :
    p ∈ buildGraph c ↔ ∃ cc ∈ c.curves, ∃ f, cc.function = some f ∧ (cc.id, f.curves) = p := by
  simp only [buildGraph, List.mem_filterMap, Option.map_eq_some_iff]

theorem edge_buildGraph (c : Configuration) (hnd : (c.curves.map (·.id)).Nodup) :
    Edge (buildGraph c) = MemberOf c := by
  funext u v
  refine propext ⟨fun h => ?_, fun ⟨cc, hcc, hid, f, hf, hv⟩ => ?_⟩
  · obtain ⟨p, hp, hk, hv⟩ := h.entry
    obtain ⟨cc, hcc, f, hf, rfl⟩ := (mem_buildGraph c p).1 hp
    exact ⟨cc, hcc, hk, f, hf, hv⟩
  · have hmem : (cc.id, f.curves) ∈ buildGraph c := (mem_buildGraph c _).2 ⟨cc, hcc, f, hf, rfl⟩
    obtain ⟨p, hp⟩ := Option.isSome_iff_exists.1
      (List.find?_isSome.2 ⟨_, hmem, by simp [hid]⟩ : ((buildGraph c).find? fun p => p.1 == u).isSome)
    obtain ⟨cc', hcc', f', hf', rfl⟩ := (mem_buildGraph c p).1 (List.mem_of_find?_eq_some hp)
    have hid' : cc'.id = u := by simpa using List.find?_some hp
    obtain rfl : cc' = cc := List.inj_on_of_nodup_map hnd hcc' hcc (hid'.trans hid.symm)
    obtain rfl : f' = f := Option.some.inj (hf'.symm.trans hf)
    exact (edge_iff _ u v).2 ⟨_, hp, hv⟩

theorem noCycle_iff_acyclic {c : Configuration} (hnd : (c.curves.map (·.id)).Nodup)
    (hself : NoSelfRef c) : hasCycle (buildGraph c) = false ↔ Acyclic c := by
  rw [not_hasCycle_iff _ (edge_buildGraph c hnd ▸ hself), edge_buildGraph c hnd]
  rfl

namespace Accepted
variable {c : Configuration} {permOk : Bool}

theorem oneBackend (A : Accepted c permOk) : oneBackend c :=
  ⟨fun _ hs => (A.sensor _ hs).one, fun _ hcc => (A.curve _ hcc).one, fun _ hf => (A.fan _ hf).one⟩

theorem refsResolve (A : Accepted c permOk) : refsResolve c :=
  ⟨fun _ hcc l hl => ((A.curve _ hcc).linear l hl).2.1, fun _ hcc p hp => ((A.curve _ hcc).pid p hp).2.1,
    fun _ hcc f hf m hm => (((A.curve _ hcc).function f hf).2.2 m hm).2, fun _ hf => (A.fan _ hf).curve⟩

theorem noSelfRef (A : Accepted c permOk) : NoSelfRef c := by
  rintro u ⟨cc, hcc, hid, f, hf, hu⟩
  exact (((A.curve _ hcc).function f hf).2.2 u hu).1 hid.symm

theorem acyclic (A : Accepted c permOk) : Acyclic c :=
  (noCycle_iff_acyclic A.ids.2.1 A.noSelfRef).1 A.noCycle

theorem functionsNonempty (A : Accepted c permOk) : FunctionsNonempty c :=
  fun _ hcc f hf => ((A.curve _ hcc).function f hf).2.1

theorem noEmptySteps (A : Accepted c permOk) : NoEmptySteps c :=
  fun _ hcc l hl => ((A.curve _ hcc).linear l hl).2.2

theorem algoInstantiable (A : Accepted c permOk) : AlgoInstantiable c :=
  fun f hf ca hca => validateCtrlAlg_some f.id ca (hca ▸ (A.fan _ hf).algo)

end Accepted

/-! The forms documented in README.md and fan2go.yaml. -/

/-- sensors: `hwmon` with `index ≥ 1` | `file` | `cmd` – exactly one -/
def docSensor (s : SensorConfig) : Bool :=
  match s.hwmon, s.file, s.cmd with
  | some idx, false, false => decide (1 ≤ idx)
  | none, true, false => true
  | none, false, true => true
  | _, _, _ => false

/-- `linear` with `min`/`max` (no steps) or with a step list of at least one entry -/
def docLinear (l : LinearCfg) : Bool :=
  l.sensor != "" && (match l.steps with | none => true | some st => !st.isEmpty)

/-- `pid` with gains that are not all zero -/
def docPid (p : PidCfg) : Bool := p.sensor != "" && !allZero p.p p.i p.d

/-- `function` with one of the six types and at least one member -/
def docFunction (f : FunctionCfg) : Bool := supportedTypes.contains f.type && !f.curves.isEmpty

def docCurve (cc : CurveConfig) : Bool :=
  match cc.linear, cc.pid, cc.function with
  | some l, none, none => docLinear l
  | none, some p, none => docPid p
  | none, none, some f => docFunction f
  | _, _, _ => false

/-- `controlAlgorithm`: absent | `direct` | `pid` (decodes to the default gains, not all zero) |
    `{direct: {maxPwmChangePerCycle: n}}` with `n ≥ 1` | `{pid: {p,i,d}}` not all zero -/
def docCtrl : Option CtrlAlgCfg → Bool
  | none => true
  | some ⟨some none, none⟩ => true
  | some ⟨some (some n), none⟩ => decide (1 ≤ n)
  | some ⟨none, some (p, i, d)⟩ => !allZero p i d
  | _ => false

/-- hwmon fan: exactly one of `index` / `rpmChannel`, `≥ 1`; optional `pwmChannel ≥ 0` -/
def docHwMonFan (h : HwMonFanCfg) : Bool :=
  ((decide (1 ≤ h.index) && h.rpmChannel == 0) || (h.index == 0 && decide (1 ≤ h.rpmChannel)))
    && decide (0 ≤ h.pwmChannel)

def docFan (f : FanConfig) : Bool :=
  f.curve != "" && docCtrl f.controlAlgorithm &&
  (match f.hwmon, f.file, f.cmd with
   | some h, none, none => docHwMonFan h
   | none, some pathEmpty, none => !pathEmpty
   | none, none, some cmd => cmd.setPwm == some false && cmd.getPwm == some false
   | _, _, _ => false)

/-- a configuration assembled only from the documented forms -/
def Documented (c : Configuration) : Prop :=
  c.sensors.all docSensor = true ∧ c.curves.all docCurve = true ∧ c.fans.all docFan = true

instance (c : Configuration) : Decidable (Documented c) := by unfold Documented; infer_instance

theorem SensorOk.of_doc (s : SensorConfig) (h : docSensor s = true) : SensorOk s := by
  obtain ⟨id, hw, fl, cm⟩ := s
  constructor <;> cases hw <;> cases fl <;> cases cm <;>
    simp_all [docSensor, SensorConfig.subConfigs, b2n]
  all_goals omega

theorem validateCtrlAlg_of_doc (id : String) (ca : Option CtrlAlgCfg) (h : docCtrl ca = true) :
    validateCtrlAlg id ca = .ok () := by
  cases ca with
  | none => rfl
  | some ca =>
    obtain ⟨d, p⟩ := ca
    rcases d with _ | _ | n <;> rcases p with _ | ⟨p, i, d⟩ <;>
      simp_all [docCtrl, validateCtrlAlg]
    all_goals omega

theorem validateFanHwMon_of_doc (id : String) (hw : HwMonFanCfg) (h : docHwMonFan hw = true) :
    validateFanHwMon id (some hw) = .ok () := by
  obtain ⟨i, r, p⟩ := hw
  simp only [docHwMonFan, Bool.and_eq_true, Bool.or_eq_true, decide_eq_true_eq, beq_iff_eq] at h
  simp only [validateFanHwMon, seq_ok, check_ok, Bool.or_eq_false_iff, Bool.and_eq_false_iff,
    bne_eq_false_iff_eq, beq_eq_false_iff_ne, decide_eq_false_iff_not, ne_eq]
  omega

theorem FanOk.of_doc (c : Configuration) (f : FanConfig) (h : docFan f = true)
    (href : CurveDefined c f.curve) : FanOk c f := by
  obtain ⟨id, curve, ca, hw, fl, cm⟩ := f
  simp only [docFan, Bool.and_eq_true, bne_iff_ne, ne_eq] at h
  obtain ⟨⟨hcurve, hca⟩, hb⟩ := h
  have hca := validateCtrlAlg_of_doc id ca hca
  rcases hw with _ | hw <;> rcases fl with _ | fl <;> rcases cm with _ | cm <;> simp at hb
  · obtain ⟨s, g⟩ := cm
    obtain ⟨rfl, rfl⟩ := hb
    exact ⟨rfl, hcurve, href, hca, rfl, rfl, rfl⟩
  · subst hb
    exact ⟨rfl, hcurve, href, hca, rfl, rfl, rfl⟩
  · exact ⟨rfl, hcurve, href, hca, validateFanHwMon_of_doc id hw hb, rfl, rfl⟩

theorem docLinear_iff (l : LinearCfg) : docLinear l = true ↔ l.sensor ≠ "" ∧ l.steps ≠ some [] := by
  obtain ⟨sensor, mn, mx, steps⟩ := l
  rcases steps with _ | _ | ⟨a, as⟩ <;> simp [docLinear]

theorem docPid_iff (p : PidCfg) :
    docPid p = true ↔ p.sensor ≠ "" ∧ allZero p.p p.i p.d = false := by
  simp [docPid]

theorem docFunction_iff (f : FunctionCfg) :
    docFunction f = true ↔ f.type ∈ supportedTypes ∧ f.curves ≠ [] := by
  simp [docFunction]

theorem CurveOk.of_doc (c : Configuration) (cc : CurveConfig) (h : docCurve cc = true)
    (hl : ∀ l, cc.linear = some l → SensorDefined c l.sensor)
    (hp : ∀ p, cc.pid = some p → SensorDefined c p.sensor)
    (hf : ∀ f, cc.function = some f → ∀ m ∈ f.curves, m ≠ cc.id ∧ CurveDefined c m) :
    CurveOk c cc := by
  obtain ⟨id, l, p, f⟩ := cc
  rcases l with _ | l <;> rcases p with _ | p <;> rcases f with _ | f <;>
    simp only [docCurve, Bool.false_eq_true] at h
  · obtain ⟨h1, h2⟩ := (docFunction_iff f).1 h
    refine ⟨rfl, ?_, ?_, ?_⟩ <;> rintro _ ⟨⟩
    exact ⟨h1, h2, hf f rfl⟩
  · obtain ⟨h1, h2⟩ := (docPid_iff p).1 h
    refine ⟨rfl, ?_, ?_, ?_⟩ <;> rintro _ ⟨⟩
    exact ⟨h1, hp p rfl, h2⟩
  · obtain ⟨h1, h2⟩ := (docLinear_iff l).1 h
    refine ⟨rfl, ?_, ?_, ?_⟩ <;> rintro _ ⟨⟩
    exact ⟨h1, hl l rfl, h2⟩

/-- completeness (C11); `permOk`: the configuration file has acceptable permissions, which only
    matters when a `cmd` entry is present -/
theorem documented_accepted (c : Configuration) (permOk : Bool) (hd : Documented c)
    (hr : refsResolve c) (hu : uniqueIds c) (ha : Acyclic c)
    (hperm : containsCmd c = true → permOk = true) : validateConfig c permOk = .ok () := by
  obtain ⟨hds, hdc, hdf⟩ := hd
  obtain ⟨hrl, hrp, hrf, hrfan⟩ := hr
  have hself : NoSelfRef c := fun u hu => ha u (TransGen.single hu)
  exact (validateConfig_ok c permOk).2
    { ids := hu
      sensor := fun s hs => SensorOk.of_doc s (List.all_eq_true.1 hds s hs)
      curve := fun cc hcc => CurveOk.of_doc c cc (List.all_eq_true.1 hdc cc hcc) (hrl cc hcc) (hrp cc hcc)
        fun f hfn m hm => ⟨fun e => hself cc.id ⟨cc, hcc, rfl, f, hfn, e ▸ hm⟩, hrf cc hcc f hfn m hm⟩
      noCycle := (noCycle_iff_acyclic hu.2.1 hself).2 ha
      perm := by cases hc : containsCmd c <;> simp [hperm, hc]
      fan := fun f hf => FanOk.of_doc c f (List.all_eq_true.1 hdf f hf) (hrfan f hf) }

end Cfg
end Fan2go
