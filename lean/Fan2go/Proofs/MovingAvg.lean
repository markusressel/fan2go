/-
  `util.UpdateSimpleMovingAvg` (Model/Util.lean `updateSimpleMovingAvg`) in binary64. On finite
  payloads one poll is `stepQ w a b = fl64 (a + fl64 (w * fl64 (b - a)))`, `w` the rounded weight
  (`upd_fin`). Two facts about `stepQ` carry the rest: the hull (`stepQ_hull`, by monotonicity of
  rounding, no error term) and the rounding error against the exact update `a + t·(b - a)`
  (`stepQ_err`); contraction, convergence over `k` polls and the decay of a hwmon fan's RPM average
  at 0 RPM (`hwmon_decay`) are corollaries.
-/
import Fan2go.Proofs.F64Ops
namespace Fan2go
open F64

/-- one poll: `avg' = avg + (1 / float64(n)) * (x - avg)`. -/
def upd (n : Int) (avg x : F64) : F64 := updateSimpleMovingAvg avg n x

/-- the binary64 weight `1 / float64(n)`. -/
def wgt (n : Int) : ℚ := fl64 (1 / (n : ℚ))

/-- payload of one poll with weight `w`, `a ⊕ (w ⊗ (b ⊖ a))`. -/
def stepQ (w a b : ℚ) : ℚ := fl64 (a + fl64 (w * fl64 (b - a)))

theorem inv_pos_le_one {n : Int} (h1 : 1 ≤ n) : 0 < 1 / (n : ℚ) ∧ 1 / (n : ℚ) ≤ 1 := by
  have hn : (1 : ℚ) ≤ n := by exact_mod_cast h1
  exact ⟨by positivity, (div_le_one (by linarith)).mpr hn⟩

theorem wgt_err {n : Int} (h1 : 1 ≤ n) (hn : n ≤ 2 ^ 53) : |wgt n - 1 / (n : ℚ)| ≤ pow2 (-53) := by
  obtain ⟨h0, hle⟩ := inv_pos_le_one h1
  have hlow : pow2 (-1022) ≤ |1 / (n : ℚ)| := by
    have : pow2 (-53) ≤ 1 / (n : ℚ) :=
      pow2_m53 ▸ one_div_le_one_div_of_le (by exact_mod_cast (by omega : 0 < n))
        (by exact_mod_cast hn)
    rw [abs_of_pos h0]; exact (pow2_mono (by norm_num)).trans this
  refine (fl64_rel_err hlow).trans ?_
  rw [abs_of_pos h0]
  exact mul_le_of_le_one_right (pow2_nonneg _) hle

/-- `w` is the payload of the weight `1 ⊘ float64(n)`. -/
structure IsWeight (n : Int) (w : ℚ) : Prop where
  div_eq : F64.one / ofInt n = fin w
  nonneg : 0 ≤ w
  le_one : w ≤ 1
  le_half : 2 ≤ n → w ≤ 1 / 2

theorem isWeight_of_fin {n : Int} {q : ℚ} (hq : ofInt n = fin q) (h1 : 1 ≤ q) (h2 : 2 ≤ n → 2 ≤ q) :
    IsWeight n (fl64 (1 / q)) := by
  have hi : 1 / q ≤ 1 := (div_le_one (by linarith)).mpr h1
  have h0 : 0 ≤ 1 / q := by positivity
  have hr : Rep64 (1 / 2 : ℚ) := by
    have := rep64_pow2 (-1) (by norm_num); rwa [pow2_def, zpow_neg_one, ← one_div] at this
  refine ⟨?_, fl64_nonneg h0, fl64_le_of_le_rep fl64_one hi, fun h =>
    fl64_le_of_le_rep hr (one_div_le_one_div_of_le two_pos (h2 h))⟩
  rw [hq, show F64.one = fin 1 from rfl, div_fin_fin 1 (by linarith),
    ofRat_fin_of_abs_le (by rw [abs_of_nonneg h0]; exact hi.trans (one_le_pow2 (by norm_num)))]

theorem isWeight_wgt {n : Int} (h1 : 1 ≤ n) (hn : n ≤ 2 ^ 53) : IsWeight n (wgt n) :=
  isWeight_of_fin (ofInt_small (by rw [abs_of_nonneg (by omega)]; exact hn)) (by exact_mod_cast h1)
    fun h => by exact_mod_cast h

/-- `float64(n)` rounds to something `≥ 1`, or overflows, and then the weight is 0. -/
theorem exists_isWeight {n : Int} (h1 : 1 ≤ n) : ∃ w, IsWeight n w := by
  have hq1 : 1 ≤ fl64 n := le_fl64_of_rep_le fl64_one (by exact_mod_cast h1)
  rcases ofRat_cases (n : ℚ) with ⟨e, -⟩ | ⟨-, h⟩ | e
  · exact ⟨0, by unfold ofInt; rw [e]; rfl, le_rfl, zero_le_one, fun _ => by norm_num⟩
  · exact absurd (hq1.trans h) (by have := pow2_pos 1024; rw [f64Huge_def]; linarith)
  · exact ⟨_, isWeight_of_fin e hq1 fun h2 =>
      le_fl64_of_rep_le (rep64_ofNat 2 (by norm_num)) (by exact_mod_cast h2)⟩

theorem upd_fin {n : Int} {w : ℚ} (hw : IsWeight n w) {a b : ℚ} (hd : |b - a| ≤ pow2 1023) :
    upd n (fin a) (fin b) = ofRat (a + fl64 (w * fl64 (b - a))) := by
  have hwd : |w * fl64 (b - a)| ≤ pow2 1023 :=
    (abs_unit_mul_le hw.nonneg hw.le_one _).trans
      (abs_fl64_le_of_abs_le_rep (rep64_pow2 1023 (by norm_num)) hd)
  unfold upd updateSimpleMovingAvg
  rw [hw.div_eq, sub_fin_fin, ofRat_fin_of_abs_le hd, mul_fin_fin, ofRat_fin_of_abs_le hwd,
    add_fin_fin]

theorem upd_fin_stepQ {n : Int} {w : ℚ} (hw : IsWeight n w) {a b : ℚ} (hd : |b - a| ≤ pow2 1023)
    (hs : |stepQ w a b| < f64Huge) : upd n (fin a) (fin b) = fin (stepQ w a b) := by
  rw [upd_fin hw hd]; exact ofRat_fin_of_abs_lt hs

/-- Magnitudes through `|fl64 x| ≤ 2|x|` at each rounding: no error terms, so every bound built on
    these stays linear in `M`. -/
theorem stepQ_abs_le {w a b M : ℚ} (hw0 : 0 ≤ w) (hw1 : w ≤ 1) (ha : |a| ≤ M) (hb : |b| ≤ M) :
    |fl64 (b - a)| ≤ 4 * M ∧ |a + fl64 (w * fl64 (b - a))| ≤ 9 * M ∧ |stepQ w a b| ≤ 18 * M := by
  have hd : |fl64 (b - a)| ≤ 4 * M :=
    (abs_fl64_le_two_mul _).trans (by linarith [abs_sub_le_of_abs_le hb ha])
  have hp : |fl64 (w * fl64 (b - a))| ≤ 8 * M :=
    (abs_fl64_le_two_mul _).trans (by linarith [abs_unit_mul_le hw0 hw1 (fl64 (b - a))])
  have hs : |a + fl64 (w * fl64 (b - a))| ≤ 9 * M := (abs_add_le a _).trans (by linarith)
  exact ⟨hd, hs, (abs_fl64_le_two_mul _).trans (by linarith)⟩

/-- The three rounding errors and the error of the weight add up to `17·2^-53·M + 3·2^-1075`;
    `2^-48 = 32·2^-53` and `2^-1072 = 8·2^-1075` are the next powers of two. -/
theorem stepQ_err {w t a b M : ℚ} (hw0 : 0 ≤ w) (hw1 : w ≤ 1) (hwt : |w - t| ≤ pow2 (-53))
    (ha : |a| ≤ M) (hb : |b| ≤ M) :
    |stepQ w a b - (a + t * (b - a))| ≤ pow2 (-48) * M + pow2 (-1072) := by
  have hu := pow2_nonneg (-53)
  have huM := mul_nonneg hu ((abs_nonneg a).trans ha)
  have hx := abs_sub_le_of_abs_le hb ha
  obtain ⟨hd, hs, -⟩ := stepQ_abs_le hw0 hw1 ha hb
  have e1 := fl64_err_le hx
  have e2 := fl64_err_le ((abs_unit_mul_le hw0 hw1 _).trans hd)
  have e3 := fl64_err_le hs
  have e4 := (abs_unit_mul_le hw0 hw1 (fl64 (b - a) - (b - a))).trans e1
  have e5 := abs_mul_le' hwt hx
  have h48 : pow2 (-48) = 32 * pow2 (-53) := by
    rw [show (-48 : Int) = 5 + (-53) by norm_num, pow2_add]; congr 1
  have h1072 : pow2 (-1072) = 8 * pow2 (-1075) := by
    rw [show (-1072 : Int) = 3 + (-1075) by norm_num, pow2_add]; congr 1
  -- the difference as the sum of the three rounding errors, outermost first, and the error of `w`
  rw [show stepQ w a b - (a + t * (b - a)) =
      (stepQ w a b - (a + fl64 (w * fl64 (b - a)))) + (fl64 (w * fl64 (b - a)) - w * fl64 (b - a)) +
      w * (fl64 (b - a) - (b - a)) + (w - t) * (b - a) by ring, h48, h1072]
  unfold stepQ
  exact (abs_add_le' (abs_add_le' (abs_add_le' e3 e2) e4) e5).trans
    (by linarith [pow2_nonneg (-1075)])

theorem stepQ_slack_le {M : ℚ} : pow2 (-48) * M + pow2 (-1072) ≤ (M + 1) / 2 ^ 48 := by
  have h48 : pow2 (-48) = 1 / 2 ^ 48 := pow2_neg_natCast 48
  have h1072 : pow2 (-1072) ≤ pow2 (-48) := pow2_mono (by norm_num)
  rw [h48] at h1072 ⊢
  linarith [show (M + 1) / 2 ^ 48 = 1 / 2 ^ 48 * M + 1 / 2 ^ 48 by ring]

theorem stepQ_contract {n : Int} (h1 : 1 ≤ n) (hn : n ≤ 2 ^ 53) {a c M : ℚ} (ha : |a| ≤ M)
    (hc : |c| ≤ M) :
    |stepQ (wgt n) a c - c| ≤ (1 - 1 / (n : ℚ)) * |a - c| + (pow2 (-48) * M + pow2 (-1072)) := by
  have e : |a + 1 / (n : ℚ) * (c - a) - c| = (1 - 1 / (n : ℚ)) * |a - c| := by
    rw [show a + 1 / (n : ℚ) * (c - a) - c = (1 - 1 / (n : ℚ)) * (a - c) by ring, abs_mul,
      abs_of_nonneg (sub_nonneg.mpr (inv_pos_le_one h1).2)]
  have := abs_sub_le (stepQ (wgt n) a c) (a + 1 / (n : ℚ) * (c - a)) c
  have hw := isWeight_wgt h1 hn
  linarith [stepQ_err hw.nonneg hw.le_one (wgt_err h1 hn) ha hc]

/-- With `w = 1` and an inexact difference the increment `w ⊗ (y ⊖ x)` of one poll can overshoot
    `y - x` (`C08_hull_n1_witness`). -/
theorem stepQ_increment_bounds {w x y : ℚ} (hw0 : 0 ≤ w) (hw1 : w ≤ 1) (hx : Rep64 x) (hy : Rep64 y)
    (hxy : x ≤ y) (h : w ≤ 1 / 2 ∨ Rep64 (y - x)) :
    0 ≤ fl64 (w * fl64 (y - x)) ∧ fl64 (w * fl64 (y - x)) ≤ y - x := by
  have hd0 : 0 ≤ y - x := sub_nonneg.mpr hxy
  have hf0 : 0 ≤ fl64 (y - x) := fl64_nonneg hd0
  refine ⟨fl64_nonneg (mul_nonneg hw0 hf0), ?_⟩
  have of_rep : Rep64 (y - x) → fl64 (w * fl64 (y - x)) ≤ y - x := fun hr => by
    rw [fl64_of_rep hr]; exact fl64_le_of_le_rep hr (mul_le_of_le_one_left hd0 hw1)
  rcases h with hw | hr
  · rcases le_or_gt (pow2 (-1021)) (fl64 (y - x)) with hbig | hsmall
    · -- half the rounded difference is a double, which rounding cannot pass, and at most `y - x`
      have hr : Rep64 (fl64 (y - x) / 2) :=
        rep64_half (rep64_fl64 _) (by rwa [abs_of_nonneg hf0])
      have h2 := abs_fl64_le_two_mul (y - x)
      rw [abs_of_nonneg hf0, abs_of_nonneg hd0] at h2
      exact (fl64_le_of_le_rep hr (by linarith [mul_le_mul_of_nonneg_right hw hf0])).trans
        (by linarith)
    · -- the difference is so small that it is exact
      refine of_rep (rep64_sub_small hy hx ?_)
      rw [abs_of_nonneg hd0]
      exact lt_of_not_ge fun hcon =>
        absurd (le_fl64_of_rep_le (rep64_pow2 (-1021) (by norm_num)) hcon) (not_le.mpr hsmall)
  · exact of_rep hr

theorem stepQ_hull {w a b : ℚ} (hw0 : 0 ≤ w) (hw1 : w ≤ 1) (ha : Rep64 a) (hb : Rep64 b)
    (h : w ≤ 1 / 2 ∨ Rep64 (b - a)) : min a b ≤ stepQ w a b ∧ stepQ w a b ≤ max a b := by
  unfold stepQ
  rcases le_total a b with hab | hab
  · obtain ⟨p0, p1⟩ := stepQ_increment_bounds hw0 hw1 ha hb hab h
    rw [min_eq_left hab, max_eq_right hab]
    exact ⟨le_fl64_of_rep_le ha (by linarith), fl64_le_of_le_rep hb (by linarith)⟩
  · obtain ⟨p0, p1⟩ := stepQ_increment_bounds hw0 hw1 hb ha hab
      (h.imp_right fun hr => neg_sub b a ▸ hr.neg)
    rw [min_eq_right hab, max_eq_left hab, ← neg_sub a b, fl64_neg, mul_neg, fl64_neg]
    exact ⟨le_fl64_of_rep_le hb (by linarith), fl64_le_of_le_rep ha (by linarith)⟩

theorem upd_hull {n : Int} {w : ℚ} (hw : IsWeight n w) {a b : ℚ} (ha : Fin64 a) (hb : Fin64 b)
    (hd : |b - a| ≤ pow2 1023) (h : 2 ≤ n ∨ Rep64 (b - a)) :
    upd n (fin a) (fin b) = fin (stepQ w a b) ∧ Fin64 (stepQ w a b) ∧
      min a b ≤ stepQ w a b ∧ stepQ w a b ≤ max a b := by
  obtain ⟨l, u⟩ := stepQ_hull hw.nonneg hw.le_one ha.1 hb.1 (h.imp_left hw.le_half)
  have hs : |stepQ w a b| < f64Huge := (abs_le_of_hull l u).trans_lt (max_lt ha.2 hb.2)
  exact ⟨upd_fin_stepQ hw hd hs, ⟨rep64_fl64 _, hs⟩, l, u⟩

theorem upd_self {n : Int} (h1 : 1 ≤ n) {a : ℚ} (ha : Fin64 a) :
    upd n (fin a) (fin a) = fin a := by
  obtain ⟨w, hw⟩ := exists_isWeight h1
  obtain ⟨e, -, l, u⟩ := upd_hull hw ha ha (by rw [sub_self, abs_zero]; exact pow2_nonneg _)
    (.inr (by rw [sub_self]; exact rep64_0))
  rw [min_self] at l; rw [max_self] at u
  exact e.trans (congrArg fin (le_antisymm u l))

theorem upd_one {a b : ℚ} (hd : |b - a| ≤ pow2 1023) :
    upd 1 (fin a) (fin b) = ofRat (a + fl64 (b - a)) := by
  have hw : wgt 1 = 1 := by unfold wgt; norm_num; exact fl64_one
  rw [upd_fin (isWeight_wgt le_rfl (by norm_num)) hd, hw, one_mul, fl64_idem]

/-- `k` polls that all read `c`. -/
def pollConst (n : Int) (c : ℚ) (k : Nat) (avg : F64) : F64 := (fun v => upd n v (fin c))^[k] avg

/-- `2^1000` is the magnitude bound of `C08_converge`; it leaves room for the factors 2 (a difference)
    and 18 (`stepQ_abs_le`) below the largest power of two. -/
theorem mul_le_pow2_1023 {k M : ℚ} (hk : k ≤ 2 ^ 23) (hM0 : 0 ≤ M) (hM : M ≤ pow2 1000) :
    k * M ≤ pow2 1023 := by
  have e : pow2 1023 = 2 ^ 23 * pow2 1000 := by
    rw [show (1023 : Int) = 23 + 1000 by norm_num, pow2_add,
      show pow2 23 = 2 ^ 23 from pow2_natCast_rat 23]
  exact e ▸ mul_le_mul hk hM hM0 (by positivity)

/-- Window 1 is admitted for the reading 0, where every difference `0 - a` is exact. -/
theorem upd_converge_hist {n : Int} (h1 : 1 ≤ n) (hn : n ≤ 2 ^ 53) {a0 c M : ℚ}
    (hex : 2 ≤ n ∨ c = 0) (ha : Fin64 a0) (hc : Fin64 c) (haM : |a0| ≤ M) (hcM : |c| ≤ M)
    (hM : M ≤ pow2 1000) (k : Nat) :
    ∃ ak, pollConst n c k (fin a0) = fin ak ∧ Fin64 ak ∧ min a0 c ≤ ak ∧ ak ≤ max a0 c ∧
      |ak - c| ≤ (1 - 1 / (n : ℚ)) ^ k * |a0 - c| + n * (pow2 (-48) * M + pow2 (-1072)) := by
  obtain ⟨hi0, hi1⟩ := inv_pos_le_one h1
  have hn0 : (0 : ℚ) < n := by exact_mod_cast (by omega : 0 < n)
  have hσ : 0 ≤ pow2 (-48) * M + pow2 (-1072) :=
    add_nonneg (mul_nonneg (pow2_nonneg _) ((abs_nonneg a0).trans haM)) (pow2_nonneg _)
  induction k with
  | zero =>
    refine ⟨a0, rfl, ha, min_le_left _ _, le_max_left _ _, ?_⟩
    rw [pow_zero, one_mul]; exact le_add_of_nonneg_right (mul_nonneg hn0.le hσ)
  | succ k ih =>
    obtain ⟨ak, e, fk, lk, uk, bk⟩ := ih
    have hakM : |ak| ≤ M := (abs_le_of_hull lk uk).trans (max_le haM hcM)
    obtain ⟨e', f', l', u'⟩ := upd_hull (isWeight_wgt h1 hn) fk hc
      ((abs_sub_le_of_abs_le hcM hakM).trans
        (mul_le_pow2_1023 (by norm_num) ((abs_nonneg a0).trans haM) hM))
      (hex.imp_right fun h0 => by rw [h0, zero_sub]; exact fk.1.neg)
    refine ⟨_, ?_, f', (le_min lk (min_le_right _ _)).trans l',
      u'.trans (max_le uk (le_max_right _ _)), ?_⟩
    · unfold pollConst at e ⊢
      rw [Function.iterate_succ_apply', e, e']
    · have hid : (1 - 1 / (n : ℚ)) * (n * (pow2 (-48) * M + pow2 (-1072))) +
          (pow2 (-48) * M + pow2 (-1072)) = n * (pow2 (-48) * M + pow2 (-1072)) := by
        rw [sub_mul, one_mul, one_div, inv_mul_cancel_left₀ hn0.ne', sub_add_cancel]
      have step := mul_le_mul_of_nonneg_left bk (sub_nonneg.mpr hi1)
      rw [pow_succ]
      linarith [stepQ_contract h1 hn hakM hcM]

theorem one_sub_inv_pow_le_half (N : Nat) (hN : 1 ≤ N) : (1 - 1 / (N : ℚ)) ^ N ≤ 1 / 2 := by
  have hNq : (1 : ℚ) ≤ N := by exact_mod_cast hN
  have hx0 : 0 < 1 / (N : ℚ) := by positivity
  have hx1 : 1 / (N : ℚ) ≤ 1 := (div_le_one (by linarith)).mpr hNq
  -- Bernoulli: (1 + 1/N)^N ≥ 2, and (1 - 1/N)^N (1 + 1/N)^N = (1 - 1/N²)^N ≤ 1
  have hb : 1 + (N : ℚ) * (1 / N) ≤ (1 + 1 / (N : ℚ)) ^ N := one_add_mul_le_pow (by linarith) N
  rw [mul_one_div_cancel (by linarith)] at hb
  have hprod : (1 - 1 / (N : ℚ)) ^ N * (1 + 1 / (N : ℚ)) ^ N ≤ 1 := by
    rw [← mul_pow,
      show (1 - 1 / (N : ℚ)) * (1 + 1 / (N : ℚ)) = 1 - 1 / (N : ℚ) * (1 / (N : ℚ)) by ring]
    exact pow_le_one₀ (sub_nonneg.mpr (mul_le_one₀ hx1 hx0.le hx1))
      (sub_le_self _ (mul_self_nonneg _))
  have := mul_le_mul_of_nonneg_left hb (pow_nonneg (sub_nonneg.mpr hx1) N)
  linarith

/-- **hwmon fans notice a stall within `16·n` polls**: from any representable average in
    `[0, 32768]`, `16·n` polls reading 0 RPM bring the average into `[0, 1)`, where `int(avg) <= 0`.
    (`upd_converge_hist` with `c = 0`, `M = 2^15`: `(1 - 1/n)^(16n)·2^15 ≤ 1/2`, slack `≤ 2^-12`.) -/
theorem hwmon_decay {n : Int} (h1 : 1 ≤ n) (hn : n ≤ 2 ^ 20) {q : ℚ} (hrep : Rep64 q)
    (h0 : 0 ≤ q) (hq : q ≤ 2 ^ 15) :
    ∃ q', pollConst n 0 (16 * n.toNat) (fin q) = fin q' ∧ 0 ≤ q' ∧ q' < 1 := by
  obtain ⟨N, rfl⟩ := Int.eq_ofNat_of_zero_le (by omega : 0 ≤ n)
  have hN : 1 ≤ N := by exact_mod_cast h1
  have hNq : (N : ℚ) ≤ 2 ^ 20 := by exact_mod_cast hn
  have e15 : pow2 15 = 2 ^ 15 := pow2_natCast_rat 15
  have hqa : |q| ≤ 2 ^ 15 := by rwa [abs_of_nonneg h0]
  obtain ⟨ak, e, -, l, -, b⟩ := upd_converge_hist h1 (hn.trans (by norm_num)) (Or.inr rfl)
    ⟨hrep, (abs_le_pow2_of_le 15 hqa (by norm_num)).trans_lt pow2_1023_lt_f64Huge⟩
    fin64_zero hqa
    (by rw [abs_zero]; positivity) (e15 ▸ pow2_mono (by norm_num)) (16 * N)
  rw [min_eq_right h0] at l
  rw [sub_zero, sub_zero, abs_of_nonneg l, abs_of_nonneg h0, Int.cast_natCast, mul_comm 16 N,
    pow_mul] at b
  have hρ : ((1 - 1 / (N : ℚ)) ^ N) ^ 16 ≤ (1 / 2) ^ 16 :=
    pow_le_pow_left₀ (pow_nonneg (sub_nonneg.mpr (inv_pos_le_one h1).2) N)
      (one_sub_inv_pow_le_half N hN) 16
  refine ⟨ak, by rwa [Int.toNat_natCast], l, ?_⟩
  have : ((1 - 1 / (N : ℚ)) ^ N) ^ 16 * q ≤ (1 / 2) ^ 16 * 2 ^ 15 :=
    mul_le_mul hρ hq h0 (by positivity)
  have : (N : ℚ) * (pow2 (-48) * 2 ^ 15 + pow2 (-1072)) ≤ 2 ^ 20 * ((2 ^ 15 + 1) / 2 ^ 48) :=
    mul_le_mul hNq stepQ_slack_le
      (add_nonneg (mul_nonneg (pow2_nonneg _) (by positivity)) (pow2_nonneg _)) (by positivity)
  have : (1 / 2 : ℚ) ^ 16 * 2 ^ 15 + 2 ^ 20 * ((2 ^ 15 + 1) / 2 ^ 48) < 1 := by norm_num
  linarith

theorem upd_zero {n : Int} (h1 : 1 ≤ n) (hn : n ≤ 2 ^ 20) {q : ℚ} (hrep : Rep64 q) (h0 : 0 ≤ q)
    (hq : q ≤ 2 ^ 15) :
    upd n (fin q) (fin 0) = fin (stepQ (wgt n) q 0) ∧ 0 ≤ stepQ (wgt n) q 0 ∧
      stepQ (wgt n) q 0 ≤ q := by
  have hb : |q| ≤ pow2 1023 :=
    abs_le_pow2_of_le 15 (by rwa [abs_of_nonneg h0]) (by norm_num)
  obtain ⟨e, -, l, u⟩ := upd_hull (isWeight_wgt h1 (hn.trans (by norm_num)))
    ⟨hrep, hb.trans_lt pow2_1023_lt_f64Huge⟩ fin64_zero (by rwa [zero_sub, abs_neg])
    (.inr (by rw [zero_sub]; exact hrep.neg))
  rw [min_eq_right h0] at l; rw [max_eq_left h0] at u
  exact ⟨e, l, u⟩

/-- after the reset to 1 a single poll at 0 RPM brings the average below 1 again:
    `1/n ≥ 2^-20` exceeds the rounding error `2^-48 + 2^-1072`. -/
theorem stepQ_one_zero_lt_one {n : Int} (h1 : 1 ≤ n) (hn : n ≤ 2 ^ 20) :
    stepQ (wgt n) 1 0 < 1 := by
  have hc := stepQ_contract h1 (hn.trans (by norm_num)) (M := 1) (a := 1) (c := 0)
    (by norm_num) (by norm_num)
  rw [sub_zero, sub_zero, abs_one, mul_one,
    abs_of_nonneg (upd_zero h1 hn fl64_one zero_le_one (by norm_num)).2.1] at hc
  have : 1 / 2 ^ 20 ≤ 1 / (n : ℚ) :=
    one_div_le_one_div_of_le (by exact_mod_cast (by omega : 0 < n)) (by exact_mod_cast hn)
  have := stepQ_slack_le (M := 1)
  have : ((1 : ℚ) + 1) / 2 ^ 48 < 1 / 2 ^ 20 := by norm_num
  linarith

end Fan2go
