/-
  Lemmas about the models of `Model/Perm.lean` and `Model/Exec.lean`: bit facts for the permission test,
  `checkPerm` and `runCmd` outcome by outcome, and the algebra of `strings.Trim(s, "\n")`.
  Core Lean only.
-/
import Fan2go.Model.Exec
namespace Fan2go

theorem and_two_pow_eq_zero (m i : Nat) : m &&& 2 ^ i = 0 ↔ m.testBit i = false := by
  refine ⟨fun h => ?_, fun h => Nat.eq_of_testBit_eq fun j => ?_⟩
  · simpa using congrArg (·.testBit i) h
  · by_cases hij : i = j
    · subst hij; simp [h]
    · simp [hij]

theorem allowed_iff_bits (s : Stat) :
    allowed s ↔ s.uid = 0 ∧ (s.gid = 0 ∨ s.mode.testBit 4 = false) ∧ s.mode.testBit 1 = false := by
  unfold allowed
  -- the masks are single bits: 0o020 = 2 ^ 4 (group-write), 0o002 = 2 ^ 1 (other-write)
  rw [and_two_pow_eq_zero _ 4, and_two_pow_eq_zero _ 1]

theorem allowed_congr {s s' : Stat} (hu : s.uid = 0 ↔ s'.uid = 0) (hg : s.gid = 0 ↔ s'.gid = 0)
    (h4 : s.mode.testBit 4 = s'.mode.testBit 4) (h1 : s.mode.testBit 1 = s'.mode.testBit 1) :
    allowed s ↔ allowed s' := by
  rw [allowed_iff_bits, allowed_iff_bits, hu, hg, h4, h1]

theorem checkPerm_stat_cases (s : Stat) :
    (allowed s ∧ checkPerm .resolved (.ok s) = .ok (.ok ())) ∨
    (¬ allowed s ∧ ∃ e, checkPerm .resolved (.ok s) = .ok (.error e)) := by
  simp only [checkPerm, allowed]
  by_cases hu : s.uid ≠ 0
  · exact .inr ⟨fun h => hu h.1, _, if_pos hu⟩
  rw [if_neg hu]
  by_cases hg : s.gid ≠ 0 ∧ s.mode &&& 0o020 ≠ 0
  · exact .inr ⟨fun h => h.2.1.elim hg.1 hg.2, _, if_pos hg⟩
  rw [if_neg hg]
  by_cases ho : s.mode &&& 0o002 ≠ 0
  · exact .inr ⟨fun h => ho h.2.2, _, if_pos ho⟩
  · exact .inl ⟨⟨Decidable.not_not.mp hu, Decidable.or_iff_not_not_and_not.mpr hg, Decidable.not_not.mp ho⟩,
      if_neg ho⟩

theorem checkPerm_cases (ev : EvalRes) (st : StatRes) :
    (checkPerm ev st = .ok (.ok ()) ∧ ev = .resolved ∧ ∃ s, st = .ok s ∧ allowed s) ∨
    ∃ e, checkPerm ev st = .ok (.error e) := by
  cases ev with
  | err => exact .inr ⟨_, rfl⟩
  | resolved =>
    cases st with
    | notExist => exact .inr ⟨_, rfl⟩
    | otherErr => exact .inr ⟨_, rfl⟩
    | ok s => exact (checkPerm_stat_cases s).imp (fun h => ⟨h.2, rfl, s, rfl, h.1⟩) (·.2)

theorem checkPerm_eq_ok_iff {ev : EvalRes} {st : StatRes} :
    checkPerm ev st = .ok (.ok ()) ↔ ev = .resolved ∧ ∃ s, st = .ok s ∧ allowed s := by
  refine ⟨fun h => ?_, ?_⟩
  · rcases checkPerm_cases ev st with ⟨-, h'⟩ | ⟨e, he⟩
    · exact h'
    · rw [he] at h; cases h
  · rintro ⟨rfl, s, rfl, ha⟩
    exact (checkPerm_stat_cases s).elim (·.2) (absurd ha ·.1)

theorem PermOut.passed_iff (p : PermOut) : p.passed = true ↔ p = .ok (.ok ()) := by
  constructor
  · intro h
    -- `passed` is `false` on every other shape of `p`
    match p, h with
    | .ok (.ok ()), _ => rfl
  · intro h; subst h; rfl

/-- `.1` (`cmd.Output()` is always reached) is for C18; `.2` is word for word the conclusion of
    `C19_holds_tight` -/
theorem runCmd_spec (beh : Beh) (timeout : Nat) :
    (runCmd beh timeout).attempted = true ∧
    ((∃ e, (runCmd beh timeout).res = .ok (.error e)) ∨
      (∃ out, beh.stdout = some out ∧ (runCmd beh timeout).res = .ok (.ok (trimNl out))))
    ∧ (runCmd beh timeout).res.isPanic = false
    ∧ ∃ b, (runCmd beh timeout).boundedBy = some b ∧ b ≤ timeout + cmdWaitDelayMs := by
  unfold runCmd
  by_cases ht : timeout = 0
  · rw [if_pos ht]
    exact ⟨rfl, .inl ⟨_, rfl⟩, rfl, 0, rfl, Nat.zero_le _⟩
  · rw [if_neg ht]
    match beh with
    | .startError => exact ⟨rfl, .inl ⟨_, rfl⟩, rfl, 0, rfl, Nat.zero_le _⟩
    | .exits code out =>
      dsimp only
      by_cases hc : code = 0
      · subst hc
        exact ⟨rfl, .inr ⟨out, rfl, rfl⟩, rfl, timeout, rfl, Nat.le_add_right _ _⟩
      · rw [if_neg hc]
        exact ⟨rfl, .inl ⟨_, rfl⟩, rfl, timeout, rfl, Nat.le_add_right _ _⟩
    | .killedBySignal _ => exact ⟨rfl, .inl ⟨_, rfl⟩, rfl, timeout, rfl, Nat.le_add_right _ _⟩
    | .outlivesDeadline none => exact ⟨rfl, .inl ⟨_, rfl⟩, rfl, timeout, rfl, Nat.le_add_right _ _⟩
    | .outlivesDeadline (some (.ms h)) => exact ⟨rfl, .inl ⟨_, rfl⟩, rfl, _, rfl, Nat.min_le_right _ _⟩
    | .outlivesDeadline (some .forever) => exact ⟨rfl, .inl ⟨_, rfl⟩, rfl, _, rfl, Nat.le_refl _⟩
    | .grandchildHoldsStdout out (.ms h) =>
      dsimp only
      by_cases hw : h < cmdWaitDelayMs
      · by_cases hh : h < timeout
        · rw [if_pos hw, if_pos hh]
          exact ⟨rfl, .inr ⟨out, rfl, rfl⟩, rfl, h, rfl, by omega⟩
        · rw [if_pos hw, if_neg hh]
          exact ⟨rfl, .inl ⟨_, rfl⟩, rfl, h, rfl, by omega⟩
      · rw [if_neg hw]
        exact ⟨rfl, .inl ⟨_, rfl⟩, rfl, _, rfl, Nat.le_add_left _ _⟩
    | .grandchildHoldsStdout out .forever => exact ⟨rfl, .inl ⟨_, rfl⟩, rfl, _, rfl, Nat.le_add_left _ _⟩

theorem runCmd_attempted (beh : Beh) (t : Nat) : (runCmd beh t).attempted = true := (runCmd_spec beh t).1

theorem safeCmd_guard {perm : PermOut} {beh : Beh} {t : Nat}
    (h : (safeCmd perm beh t).attempted = true ∨ (safeCmd perm beh t).ran = true) : perm = .ok (.ok ()) := by
  match perm with
  | .ok (.ok ()) => rfl
  | .ok (.error e) | .err e | .panic s => simp [safeCmd] at h

/-- guarding `attempted` is therefore the stronger statement -/
theorem ran_imp_attempted (perm : PermOut) (beh : Beh) (t : Nat) :
    (safeCmd perm beh t).ran = true → (safeCmd perm beh t).attempted = true := by
  intro h
  cases safeCmd_guard (.inr h)
  exact runCmd_attempted beh t

theorem runTrace_call (w : EvalRes × StatRes) (b : Beh) (t : Nat) (rest : List ExecEvent) :
    runTrace w (.call b t :: rest) = (w, safeCmdExecution w.1 w.2 b t) :: runTrace w rest := rfl

theorem runTrace_setStat (w : EvalRes × StatRes) (ev : EvalRes) (st : StatRes) (rest : List ExecEvent) :
    runTrace w (.setStat ev st :: rest) = runTrace (ev, st) rest := rfl

/-! `dropNl` is `List.dropWhile`, whose lemmas are in core. -/

theorem dropNl_nil : dropNl [] = [] := rfl

theorem dropNl_append_nl {pre : List Char} (hpre : ∀ c ∈ pre, c = '\n') (x : List Char) :
    dropNl (pre ++ x) = dropNl x :=
  List.dropWhile_append_of_pos (by simpa using hpre)

theorem dropNl_all_nl {pre : List Char} (hpre : ∀ c ∈ pre, c = '\n') : dropNl pre = [] := by
  simpa [dropNl_nil] using dropNl_append_nl hpre []

theorem dropNl_fixed {l : List Char} (h : l.head? ≠ some '\n') : dropNl l = l := by
  cases l with
  | nil => rfl
  | cons a t => exact List.dropWhile_cons_of_neg (by simpa using h)

theorem dropNl_head (l : List Char) : (dropNl l).head? ≠ some '\n' := by
  intro h
  have := List.head?_dropWhile_not (· == '\n') l
  rw [show List.dropWhile _ l = dropNl l from rfl, h] at this
  simp at this

theorem dropNl_split (l : List Char) : ∃ pre, (∀ c ∈ pre, c = '\n') ∧ l = pre ++ dropNl l :=
  ⟨l.takeWhile (· == '\n'), fun c hc => by simpa using List.all_eq_true.mp List.all_takeWhile c hc,
    List.takeWhile_append_dropWhile.symm⟩

theorem trimNlChars_unique {pre m post : List Char}
    (hpre : ∀ c ∈ pre, c = '\n') (hpost : ∀ c ∈ post, c = '\n')
    (hhead : m.head? ≠ some '\n') (hlast : m.getLast? ≠ some '\n') :
    trimNlChars (pre ++ m ++ post) = m := by
  have hpost' : ∀ c ∈ post.reverse, c = '\n' := fun c hc => hpost c (List.mem_reverse.mp hc)
  have hpre' : ∀ c ∈ pre.reverse, c = '\n' := fun c hc => hpre c (List.mem_reverse.mp hc)
  unfold trimNlChars
  rw [List.reverse_append, dropNl_append_nl hpost', List.reverse_append]
  by_cases hm : m = []
  · subst hm
    simp [dropNl_all_nl hpre', dropNl_nil]
  · -- the trailing strip stops at the last character of `m`
    rw [dropNl_fixed (l := m.reverse ++ pre.reverse)
      (by simpa [List.head?_append, List.head?_reverse, hm] using hlast)]
    simpa [dropNl_append_nl hpre] using dropNl_fixed hhead

theorem trimNlChars_fixed {l : List Char} (hhead : l.head? ≠ some '\n') (hlast : l.getLast? ≠ some '\n') :
    trimNlChars l = l := by
  simpa using trimNlChars_unique (pre := []) (post := []) (m := l) (by simp) (by simp) hhead hlast

theorem trimNlChars_head (l : List Char) : (trimNlChars l).head? ≠ some '\n' := dropNl_head _

theorem trimNlChars_last (l : List Char) : (trimNlChars l).getLast? ≠ some '\n' := by
  unfold trimNlChars
  -- x := strip-trailing(l) does not end with '\n'; `dropNl x` is a suffix of x
  have hx : ((dropNl l.reverse).reverse).getLast? ≠ some '\n' := by
    rw [List.getLast?_reverse]; exact dropNl_head _
  generalize (dropNl l.reverse).reverse = x at hx
  obtain ⟨pre, _, he⟩ := dropNl_split x
  intro h
  apply hx
  rw [he, List.getLast?_append, h]
  rfl

theorem trimNlChars_split (l : List Char) :
    ∃ pre post, (∀ c ∈ pre, c = '\n') ∧ (∀ c ∈ post, c = '\n') ∧ l = pre ++ trimNlChars l ++ post := by
  obtain ⟨q, hq, he⟩ := dropNl_split l.reverse
  obtain ⟨pre, hp, he2⟩ := dropNl_split (dropNl l.reverse).reverse
  refine ⟨pre, q.reverse, hp, fun c hc => hq c (List.mem_reverse.mp hc), ?_⟩
  unfold trimNlChars
  rw [← he2]
  simpa [List.reverse_append] using congrArg List.reverse he

theorem trimNlChars_idem (l : List Char) : trimNlChars (trimNlChars l) = trimNlChars l :=
  trimNlChars_fixed (trimNlChars_head l) (trimNlChars_last l)

theorem trimNlChars_all_nl {l : List Char} (h : ∀ c ∈ l, c = '\n') : trimNlChars l = [] := by
  have := trimNlChars_unique (pre := l) (post := []) (m := []) h (by simp) (by simp) (by simp)
  simpa using this

theorem trimNl_toList (s : String) : (trimNl s).toList = trimNlChars s.toList := by
  simp [trimNl]

end Fan2go
