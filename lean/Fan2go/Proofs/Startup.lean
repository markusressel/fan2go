/-
  Proofs about `Model/Startup.lean`. Every entry point is characterised once by what it leaves behind
  (`…_spec`: sweep? measurement? result, store, controller map, as closed expressions in the inputs); the
  statements about one or two operations are Boolean consequences of these, and the statements about
  arbitrary operation sequences are inductions over the list on top of them.
-/
import Fan2go.Model.Startup
namespace Fan2go.Startup

theorem Out.analysed_eq (o : Out) : o.analysed = (o.swept || o.measured) := by
  unfold Out.analysed Out.swept Out.measured
  induction o.acts with
  | nil => rfl
  | cons a l ih => cases a <;> simp [Action.isAnalysis, ih]

/-- the map `computePwmMap` leaves in a controller that held `ctl` -/
def mapAfter (d : FanDecl) (ctl : Option MapSrc) (st : Store) : MapSrc :=
  if d.cfgMap then .override else st.map.getD (ctl.getD (if d.pwmRead then .swept else .default))

theorem locked_spec (d : FanDecl) (ctl : Option MapSrc) (st : Store) :
    (computePwmMapLocked d ctl st).1.contains .sweep = (!d.cfgMap && st.map.isNone && ctl.isNone && d.pwmRead) ∧
    (computePwmMapLocked d ctl st).1.contains .measure = false ∧
    (computePwmMapLocked d ctl st).1.contains .measureFail = false ∧
    (computePwmMapLocked d ctl st).2.1 = some (mapAfter d ctl st) ∧
    (computePwmMapLocked d ctl st).2.2 = if d.cfgMap then st else { st with map := some (mapAfter d ctl st) } := by
  obtain ⟨_, _, pr, cm, _, _⟩ := d
  obtain ⟨_, m⟩ := st
  unfold computePwmMapLocked mapAfter
  cases cm <;> cases m <;> cases ctl <;> cases pr <;> simp

theorem runInit_spec (d : FanDecl) (ctl : Option MapSrc) (st : Store) :
    (runInit d ctl st).swept = (!d.cfgMap && st.map.isNone && ctl.isNone && d.pwmRead) ∧
    (runInit d ctl st).measured = d.hasRpm ∧
    (runInit d ctl st).ok = (!d.hasRpm || d.devOk) ∧
    (runInit d ctl st).store = { rpm := st.rpm || d.hasRpm && d.devOk, map := some (mapAfter d ctl st) } ∧
    (runInit d ctl st).ctl = some (mapAfter d ctl st) := by
  obtain ⟨h1, h2, _, h3, h4⟩ := locked_spec d ctl st
  unfold runInit Out.swept Out.measured
  generalize computePwmMapLocked d ctl st = L at h1 h2 h3 h4
  obtain ⟨a, c, s⟩ := L
  simp only at h1 h2 h3 h4
  subst h3 h4
  obtain ⟨_, hr, _, cm, _, ok⟩ := d
  cases hr <;> cases ok <;> cases cm <;> simp_all

theorem runTail_spec (d : FanDecl) (ctl : Option MapSrc) (st : Store) (acts : List Action) :
    (runTail d ctl st acts).swept =
      (acts.contains .sweep || st.rpm && (!d.cfgMap && st.map.isNone && ctl.isNone && d.pwmRead)) ∧
    (runTail d ctl st acts).measured = acts.contains .measure ∧
    (runTail d ctl st acts).ok = st.rpm ∧
    (runTail d ctl st acts).store =
      (if st.rpm && !d.cfgMap then { st with map := some (mapAfter d ctl st) } else st) ∧
    (runTail d ctl st acts).ctl = if st.rpm then some (mapAfter d ctl st) else ctl := by
  obtain ⟨h1, h2, _, h3, h4⟩ := locked_spec d ctl st
  unfold runTail Out.swept Out.measured
  generalize computePwmMapLocked d ctl st = L at h1 h2 h3 h4
  obtain ⟨a, c, s⟩ := L
  simp only at h1 h2 h3 h4
  subst h3 h4
  obtain ⟨_, _, _, cm, _, _⟩ := d
  obtain ⟨r, _⟩ := st
  cases r <;> cases cm <;> simp_all

theorem start_spec (d : FanDecl) (st : Store) :
    (start d st).swept = (!d.cfgMap && st.map.isNone && d.pwmRead) ∧
    (start d st).measured = (!st.rpm && d.kind == .hwmon && d.hasRpm) ∧
    (start d st).ok = (st.rpm || d.kind != .hwmon || d.hasRpm && d.devOk) ∧
    (start d st).store.rpm = (start d st).ok ∧
    (start d st).store.map =
      (if d.cfgMap && (st.rpm || d.kind != .hwmon) then st.map else some (mapAfter d none st)) ∧
    (start d st).ctl = some (mapAfter d none st) := by
  obtain ⟨k, hr, pr, cm, mm, dv⟩ := d
  obtain ⟨r, m⟩ := st
  cases r
  · cases k
    · obtain ⟨i1, i2, i3, i4, i5⟩ := runInit_spec ⟨.hwmon, hr, pr, cm, mm, dv⟩ none ⟨false, m⟩
      simp only [Out.swept, Out.measured] at i1 i2
      simp only [start]
      cases hok : (runInit ⟨.hwmon, hr, pr, cm, mm, dv⟩ none ⟨false, m⟩).ok
      · simp only [Out.swept, Out.measured]
        simp_all
      · simp only [Bool.false_eq_true, ↓reduceIte, runTail_spec]
        cases cm <;> cases hr <;> cases dv <;> simp_all [mapAfter]
    all_goals
      simp only [start, Bool.false_eq_true, ↓reduceIte, runTail_spec]
      cases cm <;> simp [mapAfter]
  · simp only [start, ↓reduceIte, runTail_spec]
    cases cm <;> simp [mapAfter]

theorem init_spec (d : FanDecl) (st : Store) :
    (init d st).swept = (!d.cfgMap && d.pwmRead) ∧ (init d st).measured = d.hasRpm ∧
    (init d st).ok = (!d.hasRpm || d.devOk) ∧
    (init d st).store = { rpm := d.hasRpm && d.devOk, map := some (mapAfter d none {}) } ∧
    (init d st).ctl = some (mapAfter d none {}) := by
  obtain ⟨i1, i2, i3, i4, i5⟩ := runInit_spec d none {}
  simp only [Out.swept, Out.measured] at i1 i2
  simp_all [init, reset, Out.swept, Out.measured]

theorem start_swept_iff :
    ∀ (d : FanDecl) (st : Store),
      (start d st).swept = (!d.cfgMap && st.map.isNone && d.pwmRead) :=
  fun d st => (start_spec d st).1

theorem start_measured_eq :
    ∀ (d : FanDecl) (st : Store),
      (start d st).measured = (!st.rpm && d.kind == .hwmon && d.hasRpm) :=
  fun d st => (start_spec d st).2.1

theorem analysed_eq :
    ∀ (d : FanDecl) (st : Store), (start d st).analysed = ((start d st).swept || (start d st).measured) :=
  fun d st => (start d st).analysed_eq

theorem start_analysed_missing (d : FanDecl) (st : Store) (h : (start d st).analysed = true) :
    st.missing = true := by
  rw [analysed_eq, start_swept_iff, start_measured_eq] at h
  obtain ⟨r, m⟩ := st
  cases r <;> cases m <;> simp_all [Store.missing]

theorem start_override (d : FanDecl) (st : Store) (h : d.cfgMap = true) :
    (start d st).swept = false ∧ (start d st).ctl = some .override := by
  simp [start_spec, mapAfter, h]

theorem init_override (d : FanDecl) (st : Store) (h : d.cfgMap = true) :
    (init d st).swept = false ∧ (init d st).ctl = some .override := by
  simp [init_spec, mapAfter, h]

/-- unfolds the model: no `…_spec` speaks of the action list -/
theorem start_reuse (d : FanDecl) (st : Store) (hr : st.rpm = true) (h : d.cfgMap = true ∨ st.map.isSome = true) :
    (start d st).acts =
      [.loadRpmOk, .loadRpmOk, .attach, if d.cfgMap then .useOverride else .useStored, .regulate] ∧
    (start d st).store = st := by
  obtain ⟨r, m⟩ := st
  subst hr
  cases hc : d.cfgMap <;> cases m <;> simp_all [start, runTail, computePwmMapLocked]

/-- the next start is analysis-free -/
def settled (d : FanDecl) (st : Store) : Prop := (start d st).analysed = false

theorem settled_iff (d : FanDecl) (st : Store) :
    settled d st ↔
      ((!d.cfgMap && st.map.isNone && d.pwmRead) || (!st.rpm && d.kind == .hwmon && d.hasRpm)) = false := by
  rw [settled, analysed_eq, start_swept_iff, start_measured_eq]

theorem settled_of_start_ok (d : FanDecl) (st : Store) (h : (start d st).ok = true) :
    settled d (start d st).store := by
  obtain ⟨_, _, _, h4, h5, _⟩ := start_spec d st
  rw [settled_iff, h4, h5, h]
  cases d.cfgMap <;> simp

theorem ok_start_fixed (d : FanDecl) (st : Store) (h : (start d st).ok = true) :
    (start d (start d st).store).store = (start d st).store ∧ (start d (start d st).store).ok = true := by
  obtain ⟨_, _, _, h4, h5, _⟩ := start_spec d st
  have hr : (start d st).store.rpm = true := h4.trans h
  refine ⟨(start_reuse d _ hr ?_).2, by rw [(start_spec d _).2.2.1, hr]; rfl⟩
  cases hc : d.cfgMap <;> simp [h5, hc]

theorem settled_of_init_ok (d : FanDecl) (st : Store) (h : (init d st).ok = true) :
    settled d (init d st).store := by
  obtain ⟨_, _, h3, h4, _⟩ := init_spec d st
  rw [h3] at h
  rw [settled_iff, h4]
  cases hr : d.hasRpm <;> simp_all

theorem settled_after_start (d : FanDecl) (st : Store) (h : settled d st) : settled d (start d st).store := by
  obtain ⟨_, _, h3, h4, h5, _⟩ := start_spec d st
  rw [settled_iff] at h ⊢
  rw [h4, h5, h3]
  obtain ⟨r, m⟩ := st
  cases hc : d.cfgMap <;> cases r <;> simp_all

theorem settled_after_starts (d : FanDecl) (mid : List Op) (hmid : ∀ o ∈ mid, o = Op.start) :
    ∀ st, settled d st → settled d (runStore d st mid) := by
  induction mid with
  | nil => intro st h; exact h
  | cons o os ih =>
    intro st h
    obtain rfl : o = Op.start := hmid o (List.mem_cons_self ..)
    exact ih (fun o h => hmid o (List.mem_cons_of_mem _ h)) _ (settled_after_start d st h)

theorem reset_store : ∀ (d : FanDecl) (st : Store), (reset d st).store = { rpm := false, map := none } := by
  intro d st; rfl

theorem trace_entry (d : FanDecl) (ops : List Op) :
    ∀ (st : Store) (e : Store × Op × Out), e ∈ trace d st ops → e.2.2 = step d e.1 e.2.1 := by
  induction ops with
  | nil => intro st e h; simp [trace] at h
  | cons o os ih =>
    intro st e h
    simp only [trace, List.mem_cons] at h
    rcases h with h | h
    · subst h; rfl
    · exact ih _ e h

theorem runStore_append (d : FanDecl) (xs ys : List Op) :
    ∀ st, runStore d st (xs ++ ys) = runStore d (runStore d st xs) ys := by
  induction xs with
  | nil => intro st; rfl
  | cons o os ih => intro st; simp only [List.cons_append, runStore]; exact ih _

end Fan2go.Startup
