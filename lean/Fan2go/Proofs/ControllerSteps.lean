/-
  Events and runs of the controller model (core Lean only): the RPM poll `measureRpm` as a
  composition of named parts, every outcome of one event backwards (`StepCase`) with what it can
  change (`StepFrame`), and the induction principle for runs (`run_trace`, `run_all`).
-/
import Fan2go.Proofs.ControllerCases
namespace Fan2go
open F64

theorem measureRpm_ctl (indef : Int) (w : World) : (measureRpm indef w).ctl = w.ctl := rfl
theorem measureRpm_dev (indef : Int) (w : World) : (measureRpm indef w).dev = w.dev := rfl
theorem measureRpm_rpmWindow (indef : Int) (w : World) : (measureRpm indef w).rpmWindow = w.rpmWindow := rfl

/-- the fan object after the read stored `fan.Rpm` (file/cmd fans) -/
def pollFan0 (w : World) : FanSt :=
  match fanGetRpm w.fan w.dev, w.fan.kind with
  | .ok v, .file => { w.fan with rpmInt := v }
  | .ok v, .cmd => if w.dev.hasRpm then { w.fan with rpmInt := v } else w.fan
  | _, _ => w.fan

/-- the RPM value `measureRpm` feeds into the average (0 on a read error) -/
def pollRpm (w : World) : Int :=
  match fanGetRpm w.fan w.dev with
  | .ok v => v
  | _ => 0

def pollPwm (w : World) : Int :=
  match ctlGetPwm w with
  | .ok v => v
  | _ => 0

/-- `UpdateFanRpmCurveValue` -/
def pollCurve (fan : FanSt) (pwm rpm : Int) : FanSt :=
  match fan.kind with
  | .hwmon =>
    let cd := fan.curveData.getD []
    let cd' := if cd.any (·.1 == pwm) then cd.map (fun p => if p.1 == pwm then (pwm, ofInt rpm) else p)
               else cd ++ [(pwm, ofInt rpm)]
    { fan with curveData := some cd' }
  | _ => fan

theorem measureRpm_eq (indef : Int) (w : World) :
    measureRpm indef w =
      { w with fan := pollCurve ((pollFan0 w).setRpmAvg indef
          (updateSimpleMovingAvg (pollFan0 w).getRpmAvg w.rpmWindow (ofInt (pollRpm w)))) (pollPwm w) (pollRpm w) } := rfl

theorem pollFan0_fanSame (w : World) : FanSame w.fan (pollFan0 w) := by
  unfold pollFan0
  repeat' split
  all_goals exact ⟨rfl, rfl, rfl, rfl⟩

theorem pollCurve_fanSame (f : FanSt) (p r : Int) : FanSame f (pollCurve f p r) := by
  unfold pollCurve
  split
  · exact ⟨rfl, rfl, rfl, rfl⟩
  · exact FanSame.refl _

theorem pollCurve_rpmAvg (f : FanSt) (p r : Int) : (pollCurve f p r).getRpmAvg = f.getRpmAvg := by
  unfold pollCurve
  split <;> rfl

theorem measureRpm_fanSame (indef : Int) (w : World) : FanSame w.fan (measureRpm indef w).fan := by
  rw [measureRpm_eq]
  exact ((pollFan0_fanSame w).trans (setRpmAvg_fanSame _ _ _)).trans (pollCurve_fanSame _ _ _)

/-- what no event can change: the fan's limits, the PWM map and its supported inputs, the window
    size (what happens to `minPwmOffset` is `StepCase.offset`) -/
structure StepFrame (w w' : World) : Prop where
  fan : FanSame w.fan w'.fan
  rpmWindow : w'.rpmWindow = w.rpmWindow
  pwmMap : w'.ctl.pwmMap = w.ctl.pwmMap
  distinct : w'.ctl.distinct = w.ctl.distinct

/-- World and observations of one event, from which every step-level property below is read off.
    Of the result only `stop` says something (not `ok`); what a `set` step returns is `ufs_result`. -/
inductive StepCase (indef : Int) (w : World) : Ev → StepOut → Prop
  | env (d : Dev) : StepCase indef w (.env d) { w := { w with dev := d }, obs := [], result := .ok () }
  | poll : StepCase indef w .poll { w := measureRpm indef w, obs := [], result := .ok () }
  | stop (curve : Res Int) (now : Int) (w' : World) (r : Res Int) (o : List Obs) (r' : Res Unit)
      (hc : CalcCase indef w curve now w' r o) (hr : ∀ t, r ≠ .ok t) (hr' : ∀ u, r' ≠ .ok u) :
      StepCase indef w (.cycle curve now) { w := w', obs := o, result := r' }
  | set (curve : Res Int) (now : Int) (w' : World) (t : Int) (o : List Obs) (r' : Res Unit)
      (hc : CalcCase indef w curve now w' (.ok t) o) :
      StepCase indef w (.cycle curve now)
        { w := (ctlSetPwm (afterManual w') t).1,
          obs := o ++ (trySetManualPwm w'.fan w'.dev).2.2 ++ (ctlSetPwm (afterManual w') t).2.2,
          result := r' }

theorem stepEv_cycle (indef : Int) (w : World) (curve : Res Int) (now : Int) :
    stepEv indef w (.cycle curve now) =
      { w := (updateFanSpeed indef w curve now).1, obs := (updateFanSpeed indef w curve now).2.2,
        result := (updateFanSpeed indef w curve now).2.1 } := rfl

theorem step_cases (indef : Int) (w : World) (e : Ev) : StepCase indef w e (stepEv indef w e) := by
  cases e with
  | env d => exact .env d
  | poll => exact .poll
  | cycle curve now =>
    have hc := calc_cases indef w curve now
    rw [stepEv_cycle, ufs_eq]
    generalize calculateTargetPwm indef w curve now = c at hc ⊢
    obtain ⟨w', r, o⟩ := c
    cases r with
    | ok t => exact .set curve now w' t o _ hc
    | err | panic => exact .stop curve now w' _ o _ hc nofun nofun

theorem set_frame (w : World) (t : Int) : SetFrame w (ctlSetPwm (afterManual w) t).1 :=
  have g := ctlSetPwm_frame (afterManual w) t
  ⟨g.fan, g.rpmWindow, g.offset, g.pwmMap, g.distinct⟩

theorem set_obs_write (w : World) (t0 : Int) :
    ∀ x ∈ (trySetManualPwm w.fan w.dev).2.2 ++ (ctlSetPwm (afterManual w) t0).2.2,
      (∃ m b, x = .wroteMode m b) ∨ ∃ v ok, x = .wrotePwm v ok := fun x hx =>
  (List.mem_append.mp hx).imp ((trySetManualPwm_frame _ _).2 x) (ctlSetPwm_obs_any _ _ x)

theorem set_obs_requested {o : List Obs} (w : World) (t0 : Int) {t : Int} :
    Obs.requested t ∈ o ++ (trySetManualPwm w.fan w.dev).2.2 ++ (ctlSetPwm (afterManual w) t0).2.2 ↔
      Obs.requested t ∈ o := by
  rw [List.append_assoc, List.mem_append]
  refine ⟨fun h => h.resolve_right fun h' => ?_, .inl⟩
  obtain ⟨_, _, h⟩ | ⟨_, _, h⟩ := set_obs_write w t0 _ h' <;> cases h

theorem set_obs_wrote {o : List Obs} (w : World) (t0 : Int) {v : Int} {ok : Bool}
    (ho : Obs.wrotePwm v ok ∉ o) :
    Obs.wrotePwm v ok ∈ o ++ (trySetManualPwm w.fan w.dev).2.2 ++ (ctlSetPwm (afterManual w) t0).2.2 ↔
      Obs.wrotePwm v ok ∈ (ctlSetPwm (afterManual w) t0).2.2 := by
  rw [List.mem_append, List.mem_append]
  refine ⟨fun h => ?_, .inr⟩
  rcases h with (h | h) | h
  · exact absurd h ho
  · obtain ⟨_, _, h⟩ := (trySetManualPwm_frame _ _).2 _ h; cases h
  · exact h

theorem StepCase.frame {indef : Int} {w : World} {e : Ev} {out : StepOut}
    (h : StepCase indef w e out) : StepFrame w out.w := by
  cases h with
  | env d => exact ⟨FanSame.refl _, rfl, rfl, rfl⟩
  | poll => exact ⟨measureRpm_fanSame indef w, rfl, rfl, rfl⟩
  | stop curve now w' r o r' hc =>
    have f := hc.frame
    exact ⟨f.fan, f.rpmWindow, f.pwmMap, f.distinct⟩
  | set curve now w' t o r' hc =>
    have f := hc.frame
    have g := set_frame w' t
    exact ⟨by rw [g.fan]; exact f.fan, g.rpmWindow.trans f.rpmWindow, g.pwmMap.trans f.pwmMap,
      g.distinct.trans f.distinct⟩

theorem StepCase.offset {indef : Int} {w : World} {e : Ev} {out : StepOut}
    (h : StepCase indef w e out) : out.w.ctl.offset = w.ctl.offset + (raisesOf out.obs : Int) := by
  cases h with
  | env d => simp [raisesOf]
  | poll => simp [raisesOf, measureRpm_ctl]
  | stop curve now w' r o r' hc => exact hc.offset
  | set curve now w' t o r' hc =>
    have hset : raisesOf ((trySetManualPwm w'.fan w'.dev).2.2 ++ (ctlSetPwm (afterManual w') t).2.2) = 0 :=
      raisesOf_eq_zero fun x hx => by obtain ⟨_, _, rfl⟩ | ⟨_, _, rfl⟩ := set_obs_write w' t x hx <;> rfl
    dsimp only
    rw [(set_frame w' t).offset, hc.offset, List.append_assoc, raisesOf_append, hset]
    rfl

theorem StepCase.getMin {indef : Int} {w : World} {e : Ev} {out : StepOut}
    (h : StepCase indef w e out) : out.w.fan.getMin = w.fan.getMin := h.frame.fan.getMin

theorem StepCase.getMax {indef : Int} {w : World} {e : Ev} {out : StepOut}
    (h : StepCase indef w e out) : out.w.fan.getMax = w.fan.getMax := h.frame.fan.getMax

theorem StepCase.floor {indef : Int} {w : World} {e : Ev} {out : StepOut}
    (h : StepCase indef w e out) : out.w.floor = w.floor + (raisesOf out.obs : Int) := by
  unfold World.floor; rw [h.getMin, h.offset]; omega

theorem step_writes_blind {indef : Int} {w : World} {curve : Res Int} {now : Int} {w' : World} {t : Int}
    {o : List Obs} (hinv : Inv w) (hk : w.fan.kind ≠ .cmd) (hb : w.dev.pwmRead ≠ .ok)
    (h : calculateTargetPwm indef w curve now = (w', .ok t, o)) :
    ∃ v ok, Obs.wrotePwm v ok ∈ (stepEv indef w (.cycle curve now)).obs := by
  have f := (CalcCase.of_eq h).frame
  rw [stepEv_cycle, ufs_eq, h]
  obtain ⟨k, hk'⟩ := findClosest_ok (afterManual w').ctl.distinct t (f.distinct ▸ hinv.distinct_ne)
  have hread : (afterManual w').dev.pwmRead = w.dev.pwmRead :=
    (trySetManualPwm_switches w'.fan w'.dev).pwmRead.trans (congrArg Dev.pwmRead f.dev)
  have hblind : supports (afterManual w').fan (afterManual w').dev .pwmSensor = false :=
    supports_pwmSensor_blind (f := w'.fan) (by rw [f.fan.kind]; exact hk) (by rw [hread]; exact hb)
  obtain ⟨ok, hw⟩ := ctlSetPwm_writes_blind (afterManual w') hk' hblind
  exact ⟨_, ok, List.mem_append_right _ (hw ▸ List.mem_cons_self)⟩

theorem runEvs_cons (indef : Int) (w : World) (e : Ev) (es : List Ev) :
    runEvs indef w (e :: es) =
      (w, e, stepEv indef w e) ::
        (match (stepEv indef w e).result with
         | .ok _ => runEvs indef (stepEv indef w e).w es
         | _ => []) := by
  rw [runEvs]; split <;> simp_all

/-- `es'`: the remaining events, or none when the first step failed -/
theorem runEvs_tail (indef : Int) (w : World) (e : Ev) (es : List Ev) :
    ∃ es', runEvs indef w (e :: es) = (w, e, stepEv indef w e) :: runEvs indef (stepEv indef w e).w es' := by
  rw [runEvs_cons]
  split
  · exact ⟨es, rfl⟩
  · exact ⟨[], rfl⟩

theorem run_trace (indef : Int) {P : World → Prop} {es : List Ev}
    (hstep : ∀ w, ∀ e ∈ es, P w → (stepEv indef w e).result = .ok () → P (stepEv indef w e).w) :
    ∀ {w : World}, P w → ∀ x ∈ runEvs indef w es, P x.1 ∧ x.2.1 ∈ es ∧ x.2.2 = stepEv indef x.1 x.2.1 := by
  induction es with
  | nil => intro w _ x hx; cases hx
  | cons e es ih =>
    intro w hw x hx
    rw [runEvs_cons] at hx
    rcases List.mem_cons.mp hx with rfl | h
    · exact ⟨hw, List.mem_cons_self, rfl⟩
    · split at h
      · next u hu =>
        obtain ⟨a, b, c⟩ := ih (fun w e he => hstep w e (List.mem_cons_of_mem _ he))
          (hstep w e List.mem_cons_self hw hu) x h
        exact ⟨a, List.mem_cons_of_mem _ b, c⟩
      · cases h

theorem run_final_mem (indef : Int) (w : World) (es : List Ev) :
    runFinal indef w es = w ∨ ∃ x ∈ runEvs indef w es, runFinal indef w es = x.2.2.w := by
  induction es generalizing w with
  | nil => exact .inl rfl
  | cons e es ih =>
    rw [runFinal, runEvs_cons]
    split
    · next h =>
      rw [h]
      rcases ih (stepEv indef w e).w with h' | ⟨x, hx, h'⟩
      · exact .inr ⟨_, List.mem_cons_self, h'⟩
      · exact .inr ⟨x, List.mem_cons_of_mem _ hx, h'⟩
    · exact .inr ⟨_, List.mem_cons_self, rfl⟩

theorem run_all (indef : Int) {P : World → Prop} {es : List Ev}
    (hstep : ∀ w, ∀ e ∈ es, P w → P (stepEv indef w e).w) {w : World} (hw : P w) :
    P (runFinal indef w es) ∧ ∀ x ∈ runEvs indef w es, P x.1 ∧ P x.2.2.w := by
  have hall : ∀ x ∈ runEvs indef w es, P x.1 ∧ P x.2.2.w := fun x hx => by
    obtain ⟨a, b, c⟩ := run_trace indef (fun w e he h _ => hstep w e he h) hw x hx
    exact ⟨a, by rw [c]; exact hstep _ _ b a⟩
  refine ⟨?_, hall⟩
  rcases run_final_mem indef w es with h | ⟨x, hx, h⟩ <;> rw [h]
  · exact hw
  · exact (hall x hx).2

end Fan2go
