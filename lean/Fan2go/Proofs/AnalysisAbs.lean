/-
  The data-carrying model refines the decision model: erasing the data of `startD` / `initD` / `resetD`
  (`DOut.abs`) gives the runs of `Model/Startup.lean` (`…_abs`), with the decision model's input `devOk`
  instantiated by "the measurement delivered"; stored curves stay attachable (`DStore.WF`).
-/
import Fan2go.Proofs.Analysis
import Fan2go.Proofs.Startup
namespace Fan2go.Analysis
open Fan2go Fan2go.Startup F64

/-- the stored RPM curve is usable: `AttachFanRpmCurveData` of a hwmon fan refuses an empty curve, and nothing
    ever stores one (second parts of `startD_abs`, `initD_abs`) -/
def DStore.WF (cfg : FanCfg) (st : DStore) : Prop := cfg.kind = .hwmon → st.rpm ≠ some []

theorem attach_ok_of_wf (indef : Int) (cfg : FanCfg) (fan : FanSt) (hk : fan.kind = fanKind cfg.kind)
    {d : List (Int × F64)} (h : cfg.kind = .hwmon → d ≠ []) :
    (fan.attach indef (some d)).2 = .ok () := by
  by_cases hh : cfg.kind = .hwmon
  · rw [attach_hwmon_nonempty indef fan (by rw [hk, hh]; rfl) d (h hh)]
  · rw [attach_other indef fan (by rwa [hk, Ne, fanKind_eq_hwmon_iff])]

/-- after a successful attachment `SaveFanPwmData` has something to save -/
theorem attach_ok_curve (indef : Int) (cfg : FanCfg) {fan fan' : FanSt} (hk : fan.kind = fanKind cfg.kind)
    {d : List (Int × F64)} (h : fan.attach indef (some d) = (fan', .ok ())) :
    ∃ d', curveOf cfg fan' = some d' ∧ (cfg.kind = .hwmon → d' ≠ []) := by
  by_cases hh : cfg.kind = .hwmon
  · have hk' : fan.kind = .hwmon := by rw [hk, hh]; rfl
    cases d with
    | nil => rw [(attach_hwmon_empty indef fan hk').1] at h; cases h
    | cons p l =>
      rw [attach_hwmon_nonempty indef fan hk' _ (List.cons_ne_nil p l)] at h
      cases h
      exact ⟨p :: l, by rw [curveOf_hwmon hh, attachOk_eq], fun _ => List.cons_ne_nil p l⟩
  · exact ⟨fileCurve, curveOf_other hh _, fun h' => absurd h' hh⟩

@[simp] theorem decl_devOk (cfg : FanCfg) (b : Bool) : (cfg.decl b).devOk = b := rfl
@[simp] theorem decl_hasRpm (cfg : FanCfg) (b : Bool) : (cfg.decl b).hasRpm = cfg.hasRpm := rfl
@[simp] theorem decl_kind (cfg : FanCfg) (b : Bool) : (cfg.decl b).kind = cfg.kind := rfl

theorem lockedD_abs (indef : Int) (ph : Phys) (cfg : FanCfg) (fan : FanSt) (c : CtlSt)
    (st : DStore) (r : Regs) (dv : Bool) :
    let o := computePwmMapLockedD indef ph cfg fan c st r
    (o.1, o.2.1.pwmMap.map (·.1), o.2.2.1.abs) =
      computePwmMapLocked (cfg.decl dv) (c.pwmMap.map (·.1)) st.abs ∧
    o.2.2.1.rpm = st.rpm := by
  unfold computePwmMapLockedD computePwmMapLocked
  cases hcm : cfg.cfgMap with
  | some m => simp [FanCfg.decl, hcm]
  | none =>
    cases hsm : st.map with
    | some sm => simp [FanCfg.decl, hcm, DStore.abs, hsm]
    | none =>
      cases hcp : c.pwmMap with
      | some pm => simp [FanCfg.decl, hcm, DStore.abs, hsm, hcp]
      | none =>
        cases hpr : cfg.pwmRead
        · simp [computeAuto_default indef ph fan c r hpr, FanCfg.decl, hcm, DStore.abs, hsm, hpr]
        · simp [computeAuto_sweep indef ph fan c r hpr, FanCfg.decl, hcm, DStore.abs, hsm, hpr]

theorem lockedD_no_fail (indef : Int) (ph : Phys) (cfg : FanCfg) (fan : FanSt) (c : CtlSt)
    (st : DStore) (r : Regs) :
    Action.measureFail ∉ (computePwmMapLockedD indef ph cfg fan c st r).1 := by
  have h := congrArg Prod.fst (lockedD_abs indef ph cfg fan c st r true).1
  have := (locked_spec (cfg.decl true) (c.pwmMap.map (·.1)) st.abs).2.2.1
  rw [← h] at this
  simpa using this

theorem runInitD_abs (indef : Int) (ph : Phys) (cfg : FanCfg) (fan : FanSt) (c : CtlSt) (st : DStore) (r : Regs)
    (hk : fan.kind = fanKind cfg.kind) (hwf : st.WF cfg) :
    (runInitD indef ph cfg fan c st r).abs =
      runInit (cfg.decl (runInitD indef ph cfg fan c st r).devOk) (c.pwmMap.map (·.1)) st.abs ∧
    (runInitD indef ph cfg fan c st r).store.WF cfg ∧
    (runInitD indef ph cfg fan c st r).fan.kind = fan.kind := by
  have habs := fun dv => lockedD_abs indef ph cfg fan c st r dv
  have hnf := lockedD_no_fail indef ph cfg fan c st r
  rcases hL : computePwmMapLockedD indef ph cfg fan c st r with ⟨a1, c1, st1, r1⟩
  rw [hL] at habs hnf
  simp only at habs hnf
  -- `computePwmMapLocked` does not read `devOk`
  have hdl : ∀ dv, computePwmMapLocked (cfg.decl dv) (c.pwmMap.map (·.1)) st.abs =
      (a1, c1.pwmMap.map (·.1), st1.abs) := fun dv => (habs dv).1.symm
  have hwf2 : ({ st1 with map := c1.pwmMap } : DStore).WF cfg := fun hh => (habs true).2 ▸ hwf hh
  obtain ⟨l, hpm⟩ := measureLoop_ctl ph cfg fan (updateDistinct c1).distinct (updateDistinct c1)
    (trySetManual ph cfg r1) []
  have hcase := runInitD_cases indef ph cfg fan c st r hL rfl
  generalize runInitD indef ph cfg fan c st r = o at hcase ⊢
  simp only [DOut.abs, runInit, hdl, decl_hasRpm, decl_devOk]
  rcases hcase with ⟨hr, rfl⟩ | ⟨hr, -, fan', ha, rfl⟩ | ⟨hr, -, ha, hs, hc, hok, hf⟩
  · exact ⟨by simp [hr, DStore.abs], hwf2, rfl⟩
  · obtain ⟨d, hc1, hc2⟩ := attach_ok_curve indef cfg hk ha
    exact ⟨by simp [hr, hpm, hc1, DStore.abs, DOut.devOk, hnf],
      fun hh => by simpa [hc1] using hc2 hh, (congrArg (·.1.kind) ha).symm.trans (attach_kind indef fan _)⟩
  · refine ⟨by simp [hr, ha, hs, hc, hpm, hok, DStore.abs, DOut.devOk], hs ▸ hwf2, ?_⟩
    rcases hf with h | h <;> rw [h]
    exact attach_kind indef fan _

theorem runTailD_abs (indef : Int) (ph : Phys) (cfg : FanCfg) (fan : FanSt) (c : CtlSt) (st : DStore) (r : Regs)
    (acts : List Action) (dv : Bool) (hk : fan.kind = fanKind cfg.kind) (hwf : st.WF cfg) :
    (runTailD indef ph cfg fan c st r acts).abs = runTail (cfg.decl dv) (c.pwmMap.map (·.1)) st.abs acts ∧
    (runTailD indef ph cfg fan c st r acts).store.WF cfg ∧
    (runTailD indef ph cfg fan c st r acts).devOk = !acts.contains Action.measureFail := by
  unfold runTail
  cases hrpm : st.rpm with
  | none =>
    rw [runTailD_none indef ph cfg fan c r acts hrpm]
    exact ⟨by simp [DOut.abs, DStore.abs, hrpm], hwf, by simp [DOut.devOk]⟩
  | some d =>
    have hd : cfg.kind = .hwmon → d ≠ [] := fun hh => by simpa [hrpm] using hwf hh
    rw [runTailD_attached indef ph cfg c r acts hrpm (Prod.ext rfl (attach_ok_of_wf indef cfg fan hk hd))]
    obtain ⟨h1, h4⟩ := lockedD_abs indef ph cfg (fan.attach indef (some d)).1 c st r dv
    have hr : st.abs.rpm = true := by simp [DStore.abs, hrpm]
    rw [hr, if_pos rfl, ← h1]
    exact ⟨by simp [DOut.abs], fun hh => by rw [h4, hrpm]; simpa using hd hh,
      by simp [DOut.devOk, lockedD_no_fail indef ph cfg (fan.attach indef (some d)).1 c st r]⟩

theorem startD_abs (indef : Int) (ph : Phys) (cfg : FanCfg) (st : DStore) (r : Regs) (hwf : st.WF cfg) :
    (startD indef ph cfg st r).abs = start (cfg.decl (startD indef ph cfg st r).devOk) st.abs ∧
    (startD indef ph cfg st r).store.WF cfg := by
  have hk0 := newFan_kind cfg
  unfold start
  cases hrpm : st.rpm with
  | some d =>
    have hr : st.abs.rpm = true := by simp [DStore.abs, hrpm]
    simp only [hr, if_true, startD_stored indef ph cfg r hrpm]
    -- `dv` is the `devOk` the goal speaks of; the tail's own `devOk` conjunct is dropped
    exact (runTailD_abs indef ph cfg cfg.newFan _ st r [.loadRpmOk] _ hk0 hwf).imp id And.left
  | none =>
    have hr : st.abs.rpm = false := by simp [DStore.abs, hrpm]
    simp only [hr, Bool.false_eq_true, if_false, decl_kind]
    cases hkind : cfg.kind with
    | hwmon =>
      simp only [startD_hwmon indef ph cfg r hrpm hkind]
      obtain ⟨hinit, hwf', hkf⟩ := runInitD_abs indef ph cfg cfg.newFan (ctl0 cfg r) st r hk0 hwf
      -- the fresh controller has no map: `(ctl0 cfg r).pwmMap.map (·.1)` is `none` by `rfl`
      replace hinit : _ = runInit _ none st.abs := hinit
      generalize runInitD indef ph cfg cfg.newFan (ctl0 cfg r) st r = o at hinit hwf' hkf ⊢
      cases hok : o.ok with
      | true =>
        obtain ⟨ht, hw, hdev⟩ := runTailD_abs indef ph cfg o.fan o.ctl o.store o.regs (.loadRpmFail :: o.acts) o.devOk
          (hkf.trans hk0) hwf'
        replace hdev : _ = o.devOk := hdev.trans (by simp [DOut.devOk])
        simp only [if_true, hdev, ← hinit]
        exact ⟨by rw [ht]; simp [DOut.abs, hok], hw⟩
      | false =>
        have hdev : ∀ x : DOut, x.acts = .loadRpmFail :: o.acts ++ [.restore] → x.devOk = o.devOk := by
          intro x hx; simp [DOut.devOk, hx]
        simp only [Bool.false_eq_true, if_false]
        rw [hdev _ rfl, ← hinit]
        exact ⟨by simp [DOut.abs, hok], hwf'⟩
    | file | cmd =>
      have hne : cfg.kind ≠ .hwmon := by rw [hkind]; nofun
      have e : ({ st with rpm := curveOf cfg cfg.newFan } : DStore).abs = { st.abs with rpm := true } := by
        simp [DStore.abs, curveOf_other hne]
      rw [startD_other indef ph cfg r hrpm hne, ← e]
      exact (runTailD_abs indef ph cfg cfg.newFan _ _ r [.loadRpmFail, .saveRpm] _ hk0 fun hh => absurd hh hne).imp id
        And.left

theorem resetD_abs (cfg : FanCfg) (r : Regs) (dv : Bool) (st : DStore) :
    (resetD cfg r).abs = reset (cfg.decl dv) st.abs ∧ (resetD cfg r).store.WF cfg :=
  ⟨rfl, by intro _; simp [resetD]⟩

theorem initD_abs (indef : Int) (ph : Phys) (cfg : FanCfg) (st : DStore) (r : Regs) :
    (initD indef ph cfg r).abs = init (cfg.decl (initD indef ph cfg r).devOk) st.abs ∧
    (initD indef ph cfg r).store.WF cfg := by
  have hk0 := newFan_kind cfg
  obtain ⟨hinit, hwf', _⟩ := runInitD_abs indef ph cfg cfg.newFan {} {} r hk0 (fun _ => by simp)
  unfold initD init
  generalize runInitD indef ph cfg cfg.newFan {} {} r = o at hinit hwf'
  replace hinit : o.abs = runInit (cfg.decl o.devOk) none (reset (cfg.decl o.devOk) st.abs).store := hinit
  have hdev : DOut.devOk { o with acts := [.deleteRpm, .deleteMap] ++ o.acts } = o.devOk := by simp [DOut.devOk]
  refine ⟨?_, hwf'⟩
  rw [hdev, ← hinit]
  rfl

end Fan2go.Analysis
