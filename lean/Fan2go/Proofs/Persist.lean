/-
  The persistence model (`Model/Persist.lean`): the key/value list of a bucket behaves like a finite
  map, the abstraction function `abs` commutes with every operation (refinement of the specification
  `Spec`), and the frame / preservation lemmas used by `Props/C14.lean` are one case analysis on the
  specification's step (`Spec.step_cases`), transferred by the refinement. Core Lean only.
-/
import Fan2go.Model.Persist
namespace Fan2go
namespace Persist

theorem Entries.get_cons {α} (i : String) (b : Blob α) (rest : Entries α) (id : String) :
    Entries.get ((i, b) :: rest) id = if i = id then some b else Entries.get rest id := rfl

theorem Entries.get_erase {α} (es : Entries α) (id id' : String) :
    (es.erase id).get id' = if id' = id then none else es.get id' := by
  induction es with
  | nil => exact (ite_self _).symm
  | cons p rest ih =>
    obtain ⟨i, b⟩ := p
    unfold Entries.erase at ih ⊢
    rw [List.filter_cons, Entries.get_cons]
    by_cases hi : i = id
    · subst hi
      rw [if_neg (by simp), ih]
      split
      · rfl
      · next h => rw [if_neg (Ne.symm h)]
    · rw [if_pos (by simpa using hi), Entries.get_cons, ih]
      split
      · next h => rw [if_neg (h ▸ hi)]
      · rfl

theorem Entries.get_put {α} (es : Entries α) (id id' : String) (b : Blob α) :
    (es.put id b).get id' = if id' = id then some b else es.get id' := by
  rw [Entries.put, Entries.get_cons, Entries.get_erase]
  split
  · next h => rw [if_pos h.symm]
  · next h => rw [if_neg (Ne.symm h), if_neg (Ne.symm h)]

theorem Entries.erase_erase {α} (es : Entries α) (id : String) : (es.erase id).erase id = es.erase id := by
  simp [Entries.erase, List.filter_filter]

theorem Entries.erase_put {α} (es : Entries α) (id : String) (b : Blob α) :
    (es.put id b).erase id = es.erase id := by
  simp [Entries.put, Entries.erase, List.filter_filter]

theorem Entries.put_put {α} (es : Entries α) (id : String) (b b' : Blob α) :
    (es.put id b).put id b' = es.put id b' := by
  rw [Entries.put, Entries.erase_put, Entries.put]

@[simp] theorem Db.bucket_setBucket_same (db : Db) (k : Kind) (b : Bucket k.Val) :
    (db.setBucket k b).bucket k = b := by cases k <;> rfl

theorem Db.bucket_setBucket_ne (db : Db) {k k' : Kind} (b : Bucket k.Val) (h : k' ≠ k) :
    (db.setBucket k b).bucket k' = db.bucket k' := by
  cases k <;> cases k' <;> first | rfl | exact absurd rfl h

theorem Db.setBucket_bucket (db : Db) (k : Kind) : db.setBucket k (db.bucket k) = db := by
  cases k <;> rfl

theorem Db.setBucket_setBucket (db : Db) (k : Kind) (b b' : Bucket k.Val) :
    (db.setBucket k b).setBucket k b' = db.setBucket k b' := by cases k <;> rfl

@[simp] theorem Spec.set_same (s : Spec) (k : Kind) (id : String) (x : Option (Blob k.Val)) :
    s.set k id x k id = x := by simp [Spec.set]

theorem Spec.set_ne (s : Spec) {k k' : Kind} {id id' : String} (x : Option (Blob k.Val))
    (h : (k', id') ≠ (k, id)) : s.set k id x k' id' = s k' id' := by
  unfold Spec.set
  by_cases hk : k' = k
  · subst hk
    have hid : ¬ id' = id := fun e => h (by rw [e])
    simp [hid]
  · simp [hk]

theorem Spec.set_eq_self (s : Spec) (k : Kind) (id : String) (x : Option (Blob k.Val))
    (h : s k id = x) : s.set k id x = s := by
  funext k' id'
  by_cases e : (k', id') = (k, id)
  · cases e; simp [h]
  · exact Spec.set_ne s x e

theorem abs_def (db : Db) (k : Kind) (id : String) :
    abs db k id = match db.bucket k with | none => none | some es => es.get id := rfl

theorem abs_setBucket (db : Db) (k : Kind) (id : String) (es : Entries k.Val) (x : Option (Blob k.Val))
    (h : ∀ id', es.get id' = if id' = id then x else abs db k id') :
    abs (db.setBucket k (some es)) = (abs db).set k id x := by
  funext k' id'
  unfold Spec.set
  by_cases hk : k' = k
  · subst hk
    rw [dif_pos rfl, abs_def, Db.bucket_setBucket_same]
    exact h id'
  · rw [dif_neg hk, abs_def, Db.bucket_setBucket_ne _ _ hk]
    rfl

theorem abs_put (db : Db) (k : Kind) (id : String) (b : Blob k.Val) :
    abs (db.setBucket k (some (((db.bucket k).getD []).put id b))) = (abs db).set k id (some b) :=
  abs_setBucket db k id _ _ fun id' => by
    rw [Entries.get_put, abs_def]
    cases db.bucket k <;> rfl

theorem abs_erase (db : Db) (k : Kind) (id : String) (es : Entries k.Val) (hb : db.bucket k = some es) :
    abs (db.setBucket k (some (es.erase id))) = (abs db).set k id none :=
  abs_setBucket db k id _ _ fun id' => by rw [Entries.get_erase, abs_def, hb]

/-- what `Load*` returns for the given slot contents -/
def loadOut {α} : Option (Blob α) → Res α
  | none => .err "notfound"
  | some (.valid v) => .ok v
  | some (.corrupt p) => .ok p

theorem load_spec (db : Db) (k : Kind) (id : String) :
    (load db k id).2 = loadOut (abs db k id) ∧
    abs (load db k id).1 =
      match abs db k id with
      | some (.corrupt _) => (abs db).set k id none
      | _ => abs db := by
  unfold load
  rw [abs_def]
  cases hb : db.bucket k with
  | none => exact ⟨rfl, rfl⟩
  | some es =>
    simp only
    cases es.get id with
    | none => exact ⟨rfl, rfl⟩
    | some b =>
      cases b with
      | valid v => exact ⟨rfl, rfl⟩
      | corrupt p => exact ⟨rfl, abs_erase db k id es hb⟩

theorem load_out (db : Db) (k : Kind) (id : String) : (load db k id).2 = loadOut (abs db k id) :=
  (load_spec db k id).1

theorem load_congr {db db' : Db} {k : Kind} {id : String} (h : abs db' k id = abs db k id) :
    (load db' k id).2 = (load db k id).2 := by rw [load_out, load_out, h]

theorem delete_spec (db : Db) (k : Kind) (id : String) :
    (delete db k id).2 = .ok () ∧ abs (delete db k id).1 = (abs db).set k id none ∧
    (abs db k id = none → delete db k id = (db, .ok ())) := by
  unfold delete
  cases hb : db.bucket k with
  | none => exact ⟨rfl, (Spec.set_eq_self _ _ _ _ (by rw [abs_def, hb])).symm, fun _ => rfl⟩
  | some es =>
    simp only
    cases hg : es.get id with
    | none => exact ⟨rfl, (Spec.set_eq_self _ _ _ _ (by rw [abs_def, hb]; exact hg)).symm, fun _ => rfl⟩
    | some b => exact ⟨rfl, abs_erase db k id es hb, fun h => by rw [abs_def, hb] at h; cases hg.symm.trans h⟩

theorem putRaw_spec (db : Db) (k : Kind) (id : String) (b : Blob k.Val) :
    (keyOk id = true →
      (putRaw db k id b).2 = .ok () ∧ abs (putRaw db k id b).1 = (abs db).set k id (some b)) ∧
    (keyOk id = false → putRaw db k id b = (db, .err "key")) := by
  unfold putRaw
  cases keyOk id with
  | false => exact ⟨nofun, fun _ => rfl⟩
  | true => exact ⟨fun _ => ⟨rfl, abs_put db k id b⟩, nofun⟩

theorem putRaw_putRaw (db : Db) (k : Kind) (id : String) (b b' : Blob k.Val) :
    putRaw (putRaw db k id b).1 k id b' = putRaw db k id b' := by
  unfold putRaw
  cases keyOk id with
  | false => rfl
  | true => simp only [if_true, Db.bucket_setBucket_same, Option.getD_some, Db.setBucket_setBucket,
      Entries.put_put]

theorem save_eq_putRaw (db : Db) (k : Kind) (id : String) (arg : k.Val) :
    save db k id arg = match encode k arg with
      | .ok v => putRaw db k id (.valid v)
      | .err e => (db, .err e)
      | .panic s => (db, .panic s) := by
  unfold save putRaw; cases encode k arg <;> rfl

theorem save_ok (db : Db) (k : Kind) (id : String) (arg v : k.Val)
    (hkey : keyOk id = true) (henc : encode k arg = .ok v) :
    (save db k id arg).2 = .ok () ∧ abs (save db k id arg).1 = (abs db).set k id (some (.valid v)) := by
  rw [save_eq_putRaw, henc]; exact (putRaw_spec db k id _).1 hkey

theorem save_cases (db : Db) (k : Kind) (id : String) (arg : k.Val) :
    (save db k id arg).1 = db ∨
    ∃ v, encode k arg = .ok v ∧ abs (save db k id arg).1 = (abs db).set k id (some (.valid v)) := by
  rw [save_eq_putRaw]
  cases henc : encode k arg with
  | ok v =>
    cases hk : keyOk id with
    | false => exact .inl (congrArg Prod.fst ((putRaw_spec db k id _).2 hk))
    | true => exact .inr ⟨v, rfl, ((putRaw_spec db k id _).1 hk).2⟩
  | _ => exact .inl rfl

theorem save_save (db : Db) (k : Kind) (id : String) (arg : k.Val) :
    save (save db k id arg).1 k id arg = save db k id arg := by
  simp only [save_eq_putRaw]
  cases encode k arg with
  | ok v => exact putRaw_putRaw db k id _ _
  | _ => rfl

theorem step_refines (db : Db) (op : Op) :
    abs (step db op).1 = (Spec.step (abs db) op).1 ∧ (step db op).2 = (Spec.step (abs db) op).2 := by
  have hput (k : Kind) (id : String) (b : Blob k.Val) :
      abs (step db (.putRaw k id b)).1 = (Spec.step (abs db) (.putRaw k id b)).1 ∧
      (step db (.putRaw k id b)).2 = (Spec.step (abs db) (.putRaw k id b)).2 := by
    simp only [step, Spec.step, putRaw]
    cases keyOk id with
    | false => exact ⟨rfl, rfl⟩
    | true => exact ⟨abs_put db k id b, rfl⟩
  cases op with
  | save k id arg =>
    simp only [step, Spec.step, save_eq_putRaw]
    cases encode k arg with
    | ok v => exact hput k id (.valid v)
    | _ => exact ⟨rfl, rfl⟩
  | load k id =>
    simp only [step, Spec.step]
    rw [(load_spec db k id).1, (load_spec db k id).2]
    rcases abs db k id with _ | _ | _ <;> exact ⟨rfl, rfl⟩
  | delete k id =>
    simp only [step, Spec.step]
    exact ⟨(delete_spec db k id).2.1, by rw [(delete_spec db k id).1]⟩
  | reopen => exact ⟨rfl, rfl⟩
  | putRaw k id b => exact hput k id b

theorem run_refines (db : Db) (ops : List Op) :
    abs (run db ops).1 = (Spec.run (abs db) ops).1 ∧ (run db ops).2 = (Spec.run (abs db) ops).2 := by
  induction ops generalizing db with
  | nil => exact ⟨rfl, rfl⟩
  | cons op ops ih =>
    obtain ⟨h1, h2⟩ := step_refines db op
    obtain ⟨i1, i2⟩ := ih (step db op).1
    simp only [run, Spec.run]
    rw [← h1, ← h2]
    exact ⟨i1, by rw [i2]⟩

/-- `load` writes too: it discards a corrupt entry (the `∃ p` disjunct) -/
theorem Spec.step_cases (s : Spec) (op : Op) :
    (Spec.step s op).1 = s ∨
    ∃ k id x, op.target = some (k, id) ∧ (Spec.step s op).1 = s.set k id x ∧
      (op.writes k id = true ∨ ∃ p, s k id = some (.corrupt p)) ∧ (op.stores k id = true ∨ x = none) := by
  cases op with
  | save k id arg =>
    simp only [Spec.step]
    cases encode k arg with
    | ok v =>
      cases keyOk id with
      | false => exact .inl rfl
      | true => exact .inr ⟨k, id, _, rfl, rfl, .inl (by simp [Op.writes]), .inl (by simp [Op.stores])⟩
    | _ => exact .inl rfl
  | load k id =>
    simp only [Spec.step]
    rcases h : s k id with _ | _ | p
    · exact .inl rfl
    · exact .inl rfl
    · exact .inr ⟨k, id, none, rfl, rfl, .inr ⟨p, h⟩, .inr rfl⟩
  | delete k id => exact .inr ⟨k, id, none, rfl, rfl, .inl (by simp [Op.writes]), .inr rfl⟩
  | reopen => exact .inl rfl
  | putRaw k id b =>
    simp only [Spec.step]
    cases keyOk id with
    | false => exact .inl rfl
    | true => exact .inr ⟨k, id, _, rfl, rfl, .inl (by simp [Op.writes]), .inl (by simp [Op.stores])⟩

theorem step_slot (db : Db) (op : Op) (k : Kind) (id : String) :
    abs (step db op).1 k id = abs db k id ∨
    op.target = some (k, id) ∧ (op.writes k id = true ∨ ∃ p, abs db k id = some (.corrupt p)) ∧
      (op.stores k id = true ∨ abs (step db op).1 k id = none) := by
  rw [(step_refines db op).1]
  rcases Spec.step_cases (abs db) op with h | ⟨k0, id0, x, ht, h, hw, hs⟩
  · exact .inl (by rw [h])
  · rw [h]
    by_cases e : (k, id) = (k0, id0)
    · cases e
      exact .inr ⟨ht, hw, hs.imp_right fun hx => by rw [Spec.set_same, hx]⟩
    · exact .inl (Spec.set_ne _ _ e)

theorem step_frame (db : Db) (op : Op) (k : Kind) (id : String) (h : op.target ≠ some (k, id)) :
    abs (step db op).1 k id = abs db k id :=
  (step_slot db op k id).resolve_right fun h' => h h'.1

theorem run_preserves {P : Db → Prop} {C : Op → Prop}
    (hstep : ∀ db op, C op → P db → P (step db op).1) (ops : List Op) :
    ∀ db, (∀ op ∈ ops, C op) → P db → P (run db ops).1 := by
  induction ops with
  | nil => exact fun _ _ h => h
  | cons op ops ih =>
    exact fun db h h0 => ih _ (fun o ho => h o (List.mem_cons_of_mem _ ho))
      (hstep db op (h op List.mem_cons_self) h0)

theorem run_frame (db : Db) (ops : List Op) (k : Kind) (id : String)
    (h : ∀ op ∈ ops, op.target ≠ some (k, id)) : abs (run db ops).1 k id = abs db k id :=
  run_preserves (P := fun d => abs d k id = abs db k id)
    (fun d op hc hd => (step_frame d op k id hc).trans hd) ops db h rfl

theorem step_keeps_valid (db : Db) (op : Op) (k : Kind) (id : String) (v : k.Val)
    (hv : abs db k id = some (.valid v)) (hw : op.writes k id = false) :
    abs (step db op).1 k id = some (.valid v) := by
  rcases step_slot db op k id with h | ⟨_, h | ⟨p, h⟩, _⟩
  · rw [h, hv]
  · rw [hw] at h; cases h
  · rw [hv] at h; cases h

theorem run_keeps_valid (db : Db) (ops : List Op) (k : Kind) (id : String) (v : k.Val)
    (hv : abs db k id = some (.valid v)) (hw : ∀ op ∈ ops, op.writes k id = false) :
    abs (run db ops).1 k id = some (.valid v) :=
  run_preserves (P := fun d => abs d k id = some (.valid v))
    (fun d op hc hd => step_keeps_valid d op k id v hd hc) ops db hw hv

theorem step_keeps_absent (db : Db) (op : Op) (k : Kind) (id : String)
    (hv : abs db k id = none) (hs : op.stores k id = false) :
    abs (step db op).1 k id = none := by
  rcases step_slot db op k id with h | ⟨_, _, h | h⟩
  · rw [h, hv]
  · rw [hs] at h; cases h
  · exact h

theorem run_keeps_absent (db : Db) (ops : List Op) (k : Kind) (id : String)
    (hv : abs db k id = none) (hs : ∀ op ∈ ops, op.stores k id = false) :
    abs (run db ops).1 k id = none :=
  run_preserves (P := fun d => abs d k id = none)
    (fun d op hc hd => step_keeps_absent d op k id hd hc) ops db hs hv

end Persist
end Fan2go
