/-
  The two control loops (internal/control_loop/direct.go, pid.go) as far as they can be described
  without the PID dynamics: what their common tail (`loopTail`) hands to the controller is a byte
  unless it is fed NaN, and then it is Go's implementation-defined `int(NaN)`.
-/
import Fan2go.Proofs.Rescale
namespace Fan2go
open F64

/-- `int(math.Round(util.Coerce(x, 0, 255)))`, the last line of `DirectControlLoop.Cycle` and of
    `PidControlLoop.Cycle`. -/
def loopTail (indef : Int) (x : F64) : Int := toInt indef (round (coerce x (ofInt 0) (ofInt 255)))

/-- `int(math.Round(util.Coerce(s, 0, 255)))` on a finite `s`. -/
def clampRound (s : ℚ) : Int := roundRat (if 255 < s then 255 else if s < 0 then 0 else s)

theorem clampRound_eq_floor (s : ℚ) : clampRound s = ⌊max 0 (min 255 s) + 1 / 2⌋ := by
  have e : (if 255 < s then 255 else if s < 0 then 0 else s) = max 0 (min 255 s) := by
    split_ifs with a b
    · rw [min_eq_left a.le, max_eq_right (by norm_num)]
    · rw [min_eq_right (not_lt.mp a), max_eq_left b.le]
    · rw [min_eq_right (not_lt.mp a), max_eq_right (not_lt.mp b)]
  rw [clampRound, e, roundRat_def, if_pos (le_max_left _ _)]

theorem clampRound_range (s : ℚ) : 0 ≤ clampRound s ∧ clampRound s ≤ 255 := by
  have h1 : max 0 (min 255 s) ≤ 255 := max_le (by norm_num) (min_le_left _ _)
  rw [clampRound_eq_floor]
  refine ⟨Int.floor_nonneg.mpr (by linarith [le_max_left 0 (min 255 s)]),
    Int.lt_add_one_iff.mp (Int.floor_lt.mpr ?_)⟩
  push_cast; linarith

theorem le_clampRound_iff {n : Int} (h1 : 1 ≤ n) (h2 : n ≤ 255) (s : ℚ) :
    n ≤ clampRound s ↔ (n : ℚ) - 1 / 2 ≤ s := by
  have h1q : (1 : ℚ) ≤ n := by exact_mod_cast h1
  have h2q : (n : ℚ) ≤ 255 := by exact_mod_cast h2
  rw [clampRound_eq_floor, Int.le_floor, ← sub_le_iff_le_add, le_max_iff, le_min_iff]
  constructor
  · rintro (h | ⟨-, h⟩)
    · linarith
    · exact h
  · exact fun h => .inr ⟨by linarith, h⟩

theorem clampRound_lt_iff {n : Int} (h1 : 1 ≤ n) (h2 : n ≤ 255) (s : ℚ) :
    clampRound s < n ↔ s < (n : ℚ) - 1 / 2 := by
  rw [← not_le, le_clampRound_iff h1 h2, not_le]

theorem clampRound_of_ge {s : ℚ} (h : 255 ≤ s) : clampRound s = 255 :=
  le_antisymm (clampRound_range s).2
    ((le_clampRound_iff (by norm_num) le_rfl s).mpr (by push_cast; linarith))

theorem clampRound_of_nonpos {s : ℚ} (h : s ≤ 0) : clampRound s = 0 := by
  have := (clampRound_lt_iff (n := 1) le_rfl (by norm_num) s).mpr (by push_cast; linarith)
  have := (clampRound_range s).1
  omega

theorem clampRound_eq_of_near {x : Int} (h0 : 0 ≤ x) (h1 : x ≤ 255) {s : ℚ}
    (hl : (x : ℚ) - 1 / 2 ≤ s) (hu : s < (x : ℚ) + 1 / 2) : clampRound s = x := by
  have h0q : (0 : ℚ) ≤ x := by exact_mod_cast h0
  have h1q : (x : ℚ) ≤ 255 := by exact_mod_cast h1
  have u : max 0 (min 255 s) < (x : ℚ) + 1 / 2 :=
    max_lt (add_pos_of_nonneg_of_pos h0q (by norm_num)) (min_lt_of_right_lt hu)
  rw [clampRound_eq_floor, Int.floor_eq_iff]
  exact ⟨sub_le_iff_le_add.mp
    (le_max_of_le_right (le_min ((sub_le_self _ (by norm_num)).trans h1q) hl)), by linarith⟩

theorem clampRound_intCast (v : Int) : clampRound v = clamp255 v := by
  rw [clampRound_eq_floor, clamp255_eq, Int.floor_eq_iff]
  push_cast
  constructor <;> linarith

theorem clampRound_jump {a b : ℚ} (h : clampRound a < clampRound b) :
    ∃ k : Int, a < (k : ℚ) + 1 / 2 ∧ (k : ℚ) + 1 / 2 ≤ b := by
  have ra := clampRound_range a
  have rb := clampRound_range b
  refine ⟨clampRound b - 1, ?_, ?_⟩
  · have := (clampRound_lt_iff (by omega) rb.2 a).mp h
    push_cast; linarith
  · have := (le_clampRound_iff (by omega) rb.2 b).mp le_rfl
    push_cast; linarith

theorem clampRound_stable {s s' δ : ℚ} (h : |s - s'| ≤ δ)
    (hfar : ∀ k : Int, δ < |s' - ((k : ℚ) + 1 / 2)|) : clampRound s = clampRound s' := by
  have hd := abs_le.mp h
  by_contra hne
  rcases lt_or_gt_of_ne hne with hlt | hlt
  · obtain ⟨k, h1, h2⟩ := clampRound_jump hlt
    have := hfar k
    rw [abs_of_nonneg (by linarith)] at this; linarith
  · obtain ⟨k, h1, h2⟩ := clampRound_jump hlt
    have := hfar k
    rw [abs_of_neg (by linarith)] at this; linarith

theorem loopTail_nan (indef : Int) : loopTail indef nan = indef := by
  rw [loopTail, coerce_nan]; rfl

theorem loopTail_fin (indef : Int) (q : ℚ) : loopTail indef (fin q) = clampRound q := by
  have r := clampRound_range q
  unfold loopTail
  rw [ofInt_zero, ofInt_255, coerce_fin, round_fin]
  exact toInt_intCast indef (n := clampRound q) (by omega) (by omega)

theorem loopTail_intCast (indef v : Int) : loopTail indef (fin (v : ℚ)) = clamp255 v := by
  rw [loopTail_fin, clampRound_intCast]

theorem loopTail_inf (indef : Int) (s : Bool) : loopTail indef (inf s) = if s then 0 else 255 := by
  unfold loopTail
  rw [ofInt_zero, ofInt_255, coerce_inf]
  cases s
  · exact toInt_round_intCast indef (n := 255) (by norm_num) (by norm_num)
  · exact toInt_round_intCast indef (n := 0) (by norm_num) (by norm_num)

theorem loopTail_range (indef : Int) {x : F64} (hx : x ≠ nan) :
    0 ≤ loopTail indef x ∧ loopTail indef x ≤ 255 := by
  cases x with
  | nan => exact absurd rfl hx
  | inf s => rw [loopTail_inf]; cases s <;> simp
  | fin q => rw [loopTail_fin]; exact clampRound_range q

/-- Overflow does not show behind the clamp. -/
theorem loopTail_ofRat (indef : Int) (x : ℚ) :
    loopTail indef (ofRat x) = loopTail indef (fin (fl64 x)) := by
  have hH : (2 : ℚ) ^ 8 < f64Huge := two_pow_lt_f64Huge (by norm_num)
  rcases ofRat_cases x with ⟨e, h⟩ | ⟨e, h⟩ | e <;> rw [e]
  · rw [loopTail_inf, loopTail_fin, clampRound_of_ge (by linarith)]; rfl
  · rw [loopTail_inf, loopTail_fin, clampRound_of_nonpos (by linarith)]; rfl

theorem loopTail_ofInt_add_zero (indef : Int) {x : Int} (hx : |x| ≤ 2 ^ 53) :
    loopTail indef (ofInt x + fin 0) = clamp255 x := by
  rw [ofInt_small hx, add_fin_fin, add_zero, ofRat_intCast hx, loopTail_intCast]

theorem directCycle_none_eq (indef c x : Int) :
    directCycle indef none c x = loopTail indef (ofInt c) := rfl

theorem directCycle_some_eq (indef m c x : Int) :
    directCycle indef (some m) c x
      = loopTail indef (ofInt x + coerce (ofInt (c - x)) (neg (ofInt m)) (ofInt m)) := rfl

/-- No bound on `c`: `float64(c)` may round or overflow, the tail still sees on which side of
    `0..255` it lies, since rounding is monotone and exact on `0..255`. -/
theorem directCycle_none (indef c x : Int) : directCycle indef none c x = clamp255 c := by
  rw [directCycle_none_eq, ofInt, loopTail_ofRat, loopTail_fin, ← clampRound_intCast]
  rcases le_or_gt 255 c with h | h
  · rw [clampRound_of_ge (le_fl64_of_rep_le (rep64_ofNat 255 (by norm_num)) (by exact_mod_cast h)),
      clampRound_of_ge (by exact_mod_cast h)]
  rcases le_or_gt c 0 with h0 | h0
  · rw [clampRound_of_nonpos (fl64_nonpos (by exact_mod_cast h0)),
      clampRound_of_nonpos (by exact_mod_cast h0)]
  · rw [fl64_intCast c (abs_le.mpr ⟨by omega, by omega⟩)]

theorem directCycle_none_byte (indef target current : Int) (h0 : 0 ≤ target) (h1 : target ≤ 255) :
    directCycle indef none target current = target := by
  rw [directCycle_none, clamp255_id h0 h1]

/-- direct.go:44-46 on integers: `current` plus the error clamped to `±maxPwmChangePerCycle`. -/
def stepI (m c x : Int) : Int := x + max (-m) (min m (c - x))

theorem stepI_spec (m c x : Int) (hm1 : 1 ≤ m) (hc0 : 0 ≤ c) (hc : c ≤ 255) (hx0 : 0 ≤ x)
    (hx : x ≤ 255) :
    |stepI m c x - x| ≤ m ∧ 0 ≤ stepI m c x ∧ stepI m c x ≤ 255 ∧
    (x ≤ c → x ≤ stepI m c x ∧ stepI m c x ≤ c) ∧ (c ≤ x → c ≤ stepI m c x ∧ stepI m c x ≤ x) ∧
    (|c - x| ≤ m → stepI m c x = c) ∧ (m < |c - x| → |c - stepI m c x| = |c - x| - m) := by
  unfold stepI
  simp only [abs_eq_max_neg]
  omega

/-- `2^52`: the float operations are exact when `c − x` and `x + step` are within `2^53`. -/
theorem directCycle_some (indef : Int) {m c x : Int} (hm0 : 0 ≤ m) (hm : m ≤ 2 ^ 52)
    (hc : |c| ≤ 2 ^ 52) (hx : |x| ≤ 2 ^ 52) :
    directCycle indef (some m) c x = clamp255 (stepI m c x) := by
  have hc' := abs_le.mp hc
  have hx' := abs_le.mp hx
  rw [directCycle_some_eq, ofInt_small (n := c - x) (abs_le.mpr ⟨by omega, by omega⟩),
    ofInt_small (n := m) (abs_le.mpr ⟨by omega, by omega⟩),
    ofInt_small (n := x) (abs_le.mpr ⟨by omega, by omega⟩), neg_fin, ← Int.cast_neg,
    coerce_intCast _ (by omega), add_intCast (abs_le.mpr ⟨by omega, by omega⟩)]
  exact loopTail_intCast indef _

theorem directCycle_some_byte (indef : Int) (m c x : Int) (hm1 : 1 ≤ m) (hm : m ≤ 255) (hc0 : 0 ≤ c)
    (hc : c ≤ 255) (hx0 : 0 ≤ x) (hx : x ≤ 255) :
    directCycle indef (some m) c x = stepI m c x := by
  obtain ⟨-, s0, s1, -⟩ := stepI_spec m c x hm1 hc0 hc hx0 hx
  rw [directCycle_some indef (by omega) (by omega) (abs_le.mpr ⟨by omega, by omega⟩)
    (abs_le.mpr ⟨by omega, by omega⟩), clamp255_id s0 s1]

/-- the direct loop never returns `int(NaN)`: `float64(current)` is finite (for that `2^63`, any Go
    `int`, would do), and the clamped error added to it is never NaN. -/
theorem directCycle_range_of_current (indef : Int) (m : Option Int) (target current : Int)
    (hc : |current| ≤ 2 ^ 53) :
    0 ≤ directCycle indef m target current ∧ directCycle indef m target current ≤ 255 := by
  cases m with
  | none => rw [directCycle_none]; exact clamp255_range _
  | some mc =>
    rw [directCycle_some_eq, ofInt_small hc]
    exact loopTail_range indef (fin_add_ne_nan _
      (coerce_ne_nan (ofInt_ne_nan _) (neg_ne_nan (ofInt_ne_nan _)) (ofInt_ne_nan _)))

theorem pidCycle_eq (indef : Int) (st : PidSt) (target current now : Int) :
    pidCycle indef st target current now
      = ((pidLoop st (ofInt target) (ofInt current) now).1,
          loopTail indef (ofInt current + (pidLoop st (ofInt target) (ofInt current) now).2)) := rfl

/-- first call of `PidControlLoop.Cycle` (`lastTime.IsZero()`): `Loop` returns 0 and only records
    the error and the clock. -/
theorem pidCycle_first (indef : Int) {st : PidSt} (c : Int) {x : Int} (now : Int)
    (h : st.lastTime = none) (hx : |x| ≤ 2 ^ 53) :
    pidCycle indef st c x now
      = ({ st with error := ofInt c - ofInt x, lastTime := some now }, clamp255 x) := by
  have e : pidLoop st (ofInt c) (ofInt x) now =
      ({ st with error := ofInt c - ofInt x, lastTime := some now }, fin 0) := by
    unfold pidLoop; rw [h]; rfl
  rw [pidCycle_eq, e, loopTail_ofInt_add_zero indef hx]

/-- a byte, or Go's `int(NaN)`: the PID output may be NaN or ±Inf; ±Inf is coerced, NaN is not. -/
theorem loopCycle_range (indef : Int) (l : LoopSt) (target current now : Int) :
    (0 ≤ (l.cycle indef target current now).2 ∧ (l.cycle indef target current now).2 ≤ 255) ∨
      (l.cycle indef target current now).2 = indef := by
  have key (x : F64) :
      (0 ≤ loopTail indef x ∧ loopTail indef x ≤ 255) ∨ loopTail indef x = indef := by
    by_cases hx : x = nan
    · right; rw [hx, loopTail_nan]
    · left; exact loopTail_range indef hx
  cases l with
  | direct m => exact key _
  | pid st => exact key _

/-- Witness that the `int(NaN)` alternative is real: a PID loop called twice at the same clock
    reading with an unchanged error computes `0/0`. The result is `indef` (amd64: `-2^63`), which only
    the controller's own clamp (controller.go:456-463) brings back into `0..255`. -/
theorem pidCycle_nan_witness (indef : Int) :
    (pidCycle indef { p := fin 1, i := fin 0, d := fin 0, lastTime := some 0 } 0 0 0).2
      = indef := by
  have h : (pidLoop { p := fin 1, i := fin 0, d := fin 0, lastTime := some 0 }
      (ofInt 0) (ofInt 0) 0).2 = nan := by decide +kernel
  rw [pidCycle_eq, h, add_nan, loopTail_nan]

end Fan2go
