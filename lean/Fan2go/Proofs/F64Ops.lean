/-
  The operations of the executable IEEE-754 model (`Fan2go/F64/Basic.lean`) and `util.Coerce`
  (`Model/Util.lean`): what they compute on finite operands, NaN and ±Inf, and their monotonicity;
  the ramp `(t ⊖ x) ⊘ (x' ⊖ x)` that the linear curve and `util.Ratio` share; bytes (`In255`).
  The order throughout is Go's own `<=` on float64, `F64.le x y = true`: reflexive exactly on the
  non-NaN values, and transitive.
-/
import Fan2go.F64.Lemmas
import Fan2go.Model.Util

namespace Fan2go
open F64

namespace F64

@[simp] theorem le_fin_fin {a b : ℚ} : le (fin a) (fin b) = true ↔ a ≤ b := by simp [le]
@[simp] theorem lt_fin_fin {a b : ℚ} : lt (fin a) (fin b) = true ↔ a < b := by simp [lt]
@[simp] theorem ge_fin_fin {a b : ℚ} : ge (fin a) (fin b) = true ↔ b ≤ a := by simp [ge]
@[simp] theorem gt_fin_fin {a b : ℚ} : gt (fin a) (fin b) = true ↔ b < a := by simp [gt]
@[simp] theorem feq_fin_fin {a b : ℚ} : feq (fin a) (fin b) = true ↔ a = b := by simp [feq]

@[simp] theorem le_nan_left (x : F64) : le nan x = false := by cases x <;> rfl
@[simp] theorem le_nan_right (x : F64) : le x nan = false := by cases x <;> rfl
@[simp] theorem lt_nan_left (x : F64) : lt nan x = false := by cases x <;> rfl
@[simp] theorem lt_nan_right (x : F64) : lt x nan = false := by cases x <;> rfl
@[simp] theorem ge_nan_left (x : F64) : ge nan x = false := by simp [ge]
@[simp] theorem ge_nan_right (x : F64) : ge x nan = false := by simp [ge]
@[simp] theorem gt_nan_left (x : F64) : gt nan x = false := by simp [gt]
@[simp] theorem gt_nan_right (x : F64) : gt x nan = false := by simp [gt]
@[simp] theorem feq_nan_left (x : F64) : feq nan x = false := by cases x <;> rfl
@[simp] theorem feq_nan_right (x : F64) : feq x nan = false := by cases x <;> rfl

protected theorem le_refl {x : F64} (h : x ≠ nan) : le x x = true := by
  cases x with
  | nan => exact absurd rfl h
  | inf s => cases s <;> rfl
  | fin q => simp

theorem ne_nan_of_le_left {x y : F64} (h : le x y = true) : x ≠ nan := by
  rintro rfl; simp at h

theorem ne_nan_of_le_right {x y : F64} (h : le x y = true) : y ≠ nan := by
  rintro rfl; simp at h

theorem le_iff {x y : F64} : le x y = true ↔
    (x = inf true ∧ y ≠ nan) ∨ (x ≠ nan ∧ y = inf false) ∨ ∃ a b, x = fin a ∧ y = fin b ∧ a ≤ b := by
  cases x with
  | nan => simp
  | inf s => cases y with
    | nan => simp
    | inf t => cases s <;> cases t <;> simp [le]
    | fin b => cases s <;> simp [le]
  | fin a => cases y with
    | nan => simp
    | inf t => cases t <;> simp [le]
    | fin b => simp

theorem neg_inf_le {z : F64} (h : z ≠ nan) : le (inf true) z = true := le_iff.mpr (.inl ⟨rfl, h⟩)

theorem le_pos_inf {z : F64} (h : z ≠ nan) : le z (inf false) = true :=
  le_iff.mpr (.inr (.inl ⟨h, rfl⟩))

/-- Nothing is asked at NaN, which is `<=` nothing; that `f` makes no NaN of a finite value is
    `hfin a a`. -/
theorem le_map (f : F64 → F64) (hinf : ∀ s, f (inf s) = inf s)
    (hfin : ∀ a b : ℚ, a ≤ b → le (f (fin a)) (f (fin b)) = true) {x y : F64}
    (h : le x y = true) : le (f x) (f y) = true := by
  have hn : ∀ {z : F64}, z ≠ nan → f z ≠ nan := by
    intro z hz
    cases z with
    | nan => exact absurd rfl hz
    | inf s => rw [hinf]; simp
    | fin a => exact ne_nan_of_le_left (hfin a a le_rfl)
  rcases le_iff.mp h with ⟨rfl, hy⟩ | ⟨hx, rfl⟩ | ⟨a, b, rfl, rfl, hab⟩
  · rw [hinf]; exact neg_inf_le (hn hy)
  · rw [hinf]; exact le_pos_inf (hn hx)
  · exact hfin a b hab

theorem mono_of_fin {β : Type*} [Preorder β] (f : F64 → β)
    (hlo : ∀ q, f (inf true) ≤ f (fin q)) (hhi : ∀ q, f (fin q) ≤ f (inf false))
    (hlh : f (inf true) ≤ f (inf false))
    (hm : ∀ a b : ℚ, a ≤ b → f (fin a) ≤ f (fin b)) {x y : F64} (h : le x y = true) :
    f x ≤ f y := by
  rcases le_iff.mp h with ⟨rfl, hy⟩ | ⟨hx, rfl⟩ | ⟨a, b, rfl, rfl, hab⟩
  · cases y with
    | nan => exact absurd rfl hy
    | inf t => cases t; exacts [hlh, le_rfl]
    | fin b => exact hlo b
  · cases x with
    | nan => exact absurd rfl hx
    | inf s => cases s; exacts [le_rfl, hlh]
    | fin a => exact hhi a
  · exact hm a b hab

protected theorem le_trans {x y z : F64} (h1 : le x y = true) (h2 : le y z = true) : le x z = true := by
  rcases le_iff.mp h1 with ⟨rfl, _⟩ | ⟨hx, rfl⟩ | ⟨a, b, rfl, rfl, hab⟩
  · exact neg_inf_le (ne_nan_of_le_right h2)
  · rcases le_iff.mp h2 with ⟨h, _⟩ | ⟨_, rfl⟩ | ⟨_, _, h, _⟩
    · cases h
    · exact le_pos_inf hx
    · cases h
  · rcases le_iff.mp h2 with ⟨h, _⟩ | ⟨_, rfl⟩ | ⟨b', c, h, rfl, hbc⟩
    · cases h
    · rfl
    · cases h; exact le_fin_fin.mpr (hab.trans hbc)

protected theorem lt_of_not_le {x y : F64} (hx : x ≠ nan) (hy : y ≠ nan) (h : le x y = false) :
    lt y x = true := by
  cases x <;> cases y <;> simp_all [le, lt]

protected theorem le_of_lt {x y : F64} (h : lt x y = true) : le x y = true := by
  cases x <;> cases y <;> simp_all [le, lt]
  exact h.le

theorem ofRat_ne_nan (x : ℚ) : ofRat x ≠ nan := by
  unfold ofRat; simp only; split_ifs <;> simp

theorem ofInt_ne_nan (n : Int) : ofInt n ≠ nan := ofRat_ne_nan _

theorem neg_ne_nan {x : F64} (hx : x ≠ nan) : neg x ≠ nan := by
  cases x with
  | nan => exact absurd rfl hx
  | inf s => intro h; cases h
  | fin q => intro h; cases h

theorem overflowAt_mono {H r r' : ℚ} (h : r ≤ r') :
    le (overflowAt H r) (overflowAt H r') = true := by
  unfold overflowAt
  split_ifs <;> simp [le] <;> linarith

theorem ofRat_mono {x y : ℚ} (h : x ≤ y) : le (ofRat x) (ofRat y) = true := by
  rw [ofRat_eq_overflowAt, ofRat_eq_overflowAt]; exact overflowAt_mono (fl64_mono h)

theorem ofInt_fin_of_int64 {n : Int} (h : |n| ≤ 2 ^ 63) : ofInt n = fin (fl64 n) :=
  ofRat_fin_of_abs_le_two_pow 63 (by exact_mod_cast h)

theorem ofInt_mono {m n : Int} (h : m ≤ n) : le (ofInt m) (ofInt n) = true :=
  ofRat_mono (by exact_mod_cast h)

@[simp] theorem ofInt_zero : ofInt 0 = fin 0 := by
  simpa using ofInt_small (n := 0) (by norm_num)
@[simp] theorem ofInt_one : ofInt 1 = fin 1 := by
  simpa using ofInt_small (n := 1) (by norm_num)
@[simp] theorem ofInt_100 : ofInt 100 = fin 100 := by
  simpa using ofInt_small (n := 100) (by norm_num)
@[simp] theorem ofInt_255 : ofInt 255 = fin 255 := by
  simpa using ofInt_small (n := 255) (by norm_num)
@[simp] theorem ofInt_1000 : ofInt 1000 = fin 1000 := by
  simpa using ofInt_small (n := 1000) (by norm_num)

protected theorem add_def (x y : F64) : x + y = add x y := rfl
protected theorem sub_def (x y : F64) : x - y = sub x y := rfl
protected theorem mul_def (x y : F64) : x * y = mul x y := rfl
protected theorem div_def (x y : F64) : x / y = div x y := rfl

-- `show` first: a bare `rfl` unifies through the `HAdd` instance by unfolding `ofRat`, which is slow
@[simp] theorem add_fin_fin (a b : ℚ) : fin a + fin b = ofRat (a + b) := by
  show add (fin a) (fin b) = _; rfl
@[simp] theorem sub_fin_fin (a b : ℚ) : fin a - fin b = ofRat (a - b) := by
  show add (fin a) (neg (fin b)) = _
  simp only [neg, add, sub_eq_add_neg]
@[simp] theorem mul_fin_fin (a b : ℚ) : fin a * fin b = ofRat (a * b) := by
  show mul (fin a) (fin b) = _; rfl
theorem div_fin_fin (a : ℚ) {b : ℚ} (hb : b ≠ 0) : fin a / fin b = ofRat (a / b) := by
  show div (fin a) (fin b) = _
  simp [div, hb]

theorem add_intCast {i j : Int} (h : |i + j| ≤ 2 ^ 53) :
    (fin (i : ℚ) + fin (j : ℚ) : F64) = fin ((i + j : Int) : ℚ) := by
  rw [add_fin_fin, ← Int.cast_add]; exact ofRat_intCast h

theorem sub_intCast {i j : Int} (h : |i - j| ≤ 2 ^ 53) :
    (fin (i : ℚ) - fin (j : ℚ) : F64) = fin ((i - j : Int) : ℚ) := by
  rw [sub_fin_fin, ← Int.cast_sub]; exact ofRat_intCast h

theorem mul_intCast {i j : Int} (h : |i * j| ≤ 2 ^ 53) :
    (fin (i : ℚ) * fin (j : ℚ) : F64) = fin ((i * j : Int) : ℚ) := by
  rw [mul_fin_fin, ← Int.cast_mul]; exact ofRat_intCast h

theorem neg_fin (q : ℚ) : neg (fin q) = fin (-q) := rfl

@[simp] theorem nan_add (x : F64) : nan + x = nan := by cases x <;> rfl
@[simp] theorem add_nan (x : F64) : x + nan = nan := by cases x <;> rfl
@[simp] theorem nan_sub (x : F64) : nan - x = nan := by cases x <;> rfl
@[simp] theorem sub_nan (x : F64) : x - nan = nan := by cases x <;> rfl
@[simp] theorem nan_mul (x : F64) : nan * x = nan := by cases x <;> rfl
@[simp] theorem mul_nan (x : F64) : x * nan = nan := by cases x <;> rfl
@[simp] theorem nan_div (x : F64) : nan / x = nan := by cases x <;> rfl
@[simp] theorem div_nan (x : F64) : x / nan = nan := by cases x <;> rfl
@[simp] theorem inf_add_inf_ne : inf false + inf true = nan := rfl
@[simp] theorem inf_add_inf_ne' : inf true + inf false = nan := rfl
@[simp] theorem zero_div_zero : fin 0 / fin 0 = nan := rfl

theorem fin_add_ne_nan (a : ℚ) {y : F64} (hy : y ≠ nan) : (fin a + y : F64) ≠ nan := by
  cases y with
  | nan => exact absurd rfl hy
  | inf s => intro h; cases h
  | fin b => exact ofRat_ne_nan _

theorem add_fin_mono {x y : F64} (c : ℚ) (h : le x y = true) :
    le (x + fin c) (y + fin c) = true :=
  le_map (· + fin c) (fun _ => rfl) (fun _ _ hab => ofRat_mono (by linarith)) h

theorem fin_add_mono {x y : F64} (c : ℚ) (h : le x y = true) :
    le (fin c + x) (fin c + y) = true :=
  le_map (fin c + ·) (fun _ => rfl) (fun _ _ hab => ofRat_mono (by linarith)) h

theorem sub_fin_mono {x y : F64} (c : ℚ) (h : le x y = true) :
    le (x - fin c) (y - fin c) = true :=
  add_fin_mono (-c) h

theorem mul_fin_mono {x y : F64} {c : ℚ} (hc : 0 < c) (h : le x y = true) :
    le (x * fin c) (y * fin c) = true :=
  le_map (· * fin c)
    (fun s => by show mul (inf s) (fin c) = _; simp [mul, hc.ne', not_lt.mpr hc.le])
    (fun _ _ hab => ofRat_mono (mul_le_mul_of_nonneg_right hab hc.le)) h

theorem div_fin_mono {x y : F64} {c : ℚ} (hc : 0 < c) (h : le x y = true) :
    le (x / fin c) (y / fin c) = true :=
  le_map (· / fin c)
    (fun s => by show div (inf s) (fin c) = _; simp [div, not_lt.mpr hc.le])
    (fun a b hab => by
      rw [div_fin_fin a hc.ne', div_fin_fin b hc.ne']
      exact ofRat_mono (div_le_div_of_nonneg_right hab hc.le)) h

theorem fin_mul_fin_mono {a b c : ℚ} (hc : 0 ≤ c) (h : a ≤ b) :
    le (fin a * fin c) (fin b * fin c) = true := by
  rw [mul_fin_fin, mul_fin_fin]; exact ofRat_mono (mul_le_mul_of_nonneg_right h hc)

theorem truncRat_def (q : ℚ) : truncRat q = if 0 ≤ q then ⌊q⌋ else -⌊-q⌋ := rfl

theorem truncRat_of_nonneg {q : ℚ} (h : 0 ≤ q) : truncRat q = ⌊q⌋ := by
  rw [truncRat_def, if_pos h]

theorem truncRat_eq_neg_ceil {q : ℚ} (h : q < 0) : truncRat q = ⌈q⌉ := by
  rw [truncRat_def, if_neg (not_le.mpr h), Int.ceil, Int.floor]
  rfl

theorem truncRat_intCast (n : Int) : truncRat (n : ℚ) = n := by
  rw [truncRat_def]
  split_ifs with h
  · exact Int.floor_intCast n
  · rw [← Int.cast_neg, Int.floor_intCast]; ring

theorem truncRat_mono {a b : ℚ} (h : a ≤ b) : truncRat a ≤ truncRat b := by
  rw [truncRat_def, truncRat_def]
  split_ifs with ha hb hb
  · exact Int.floor_le_floor h
  · exact absurd (ha.trans h) hb
  · have h1 : 0 ≤ ⌊-a⌋ := Int.floor_nonneg.mpr (by linarith)
    have h2 : 0 ≤ ⌊b⌋ := Int.floor_nonneg.mpr hb
    omega
  · have : ⌊-b⌋ ≤ ⌊-a⌋ := Int.floor_le_floor (by linarith)
    omega

theorem truncRat_le_of_le_intCast {q : ℚ} {n : Int} (h : q ≤ n) : truncRat q ≤ n :=
  (truncRat_mono h).trans_eq (truncRat_intCast n)

theorem le_truncRat_of_intCast_le {q : ℚ} {n : Int} (h : (n : ℚ) ≤ q) : n ≤ truncRat q :=
  (truncRat_intCast n).ge.trans (truncRat_mono h)

theorem truncRat_nonneg {q : ℚ} (h : 0 ≤ q) : 0 ≤ truncRat q :=
  le_truncRat_of_intCast_le (by exact_mod_cast h)

theorem truncRat_spec_of_nonneg {q : ℚ} (h : 0 ≤ q) :
    (truncRat q : ℚ) ≤ q ∧ q < truncRat q + 1 := by
  rw [truncRat_of_nonneg h]; exact ⟨Int.floor_le q, Int.lt_floor_add_one q⟩

theorem toInt_fin_of_range (indef : Int) {q : ℚ} (h1 : -(2:Int)^63 ≤ truncRat q)
    (h2 : truncRat q < (2:Int)^63) : toInt indef (fin q) = truncRat q := by
  unfold toInt; simp only
  rw [if_neg]; omega

theorem toInt_fin_of_bounds (indef : Int) {q : ℚ} {lo hi : Int} (hlo : (lo : ℚ) ≤ q)
    (hhi : q ≤ hi) (h1 : -(2:Int)^63 ≤ lo) (h2 : hi < (2:Int)^63) :
    toInt indef (fin q) = truncRat q ∧ lo ≤ truncRat q ∧ truncRat q ≤ hi := by
  have a := le_truncRat_of_intCast_le hlo
  have b := truncRat_le_of_le_intCast hhi
  exact ⟨toInt_fin_of_range indef (by omega) (by omega), a, b⟩

@[simp] theorem toInt_nan (indef : Int) : toInt indef nan = indef := rfl
@[simp] theorem toInt_inf (indef : Int) (s : Bool) : toInt indef (inf s) = indef := rfl

theorem toInt_intCast (indef : Int) {n : Int} (h1 : -(2:Int)^63 ≤ n) (h2 : n < (2:Int)^63) :
    toInt indef (fin (n : ℚ)) = n := by
  rw [toInt_fin_of_range indef] <;> rw [truncRat_intCast] <;> assumption

theorem toInt_fin_of_nonneg (indef : Int) {q : ℚ} (h0 : 0 ≤ q) (h1 : q < 2 ^ 63) :
    toInt indef (fin q) = ⌊q⌋ := by
  have hf0 : (0 : Int) ≤ ⌊q⌋ := Int.floor_nonneg.mpr h0
  have hf1 : ⌊q⌋ < (2 : Int) ^ 63 := by
    rw [Int.floor_lt]; push_cast; exact h1
  rw [← truncRat_of_nonneg h0] at hf0 hf1 ⊢
  exact toInt_fin_of_range indef (by omega) hf1

theorem toInt_fin_lt_one (indef : Int) {q : ℚ} (h0 : 0 ≤ q) (h1 : q < 1) :
    toInt indef (fin q) = 0 := by
  rw [toInt_fin_of_nonneg indef h0 (by linarith [show (1 : ℚ) ≤ 2 ^ 63 by norm_num])]
  rw [Int.floor_eq_iff]; constructor <;> simp [h0, h1]

theorem toInt_fin_zero (indef : Int) : toInt indef (fin 0) = 0 :=
  toInt_fin_lt_one indef (le_refl _) one_pos

theorem toInt_fin_nat (indef : Int) (k : Nat) (hk : k < 2 ^ 63 := by norm_num) :
    toInt indef (fin (k : ℚ)) = k := by
  have := toInt_intCast indef (n := k) (by omega) (by exact_mod_cast hk)
  rwa [Int.cast_natCast] at this

theorem roundRat_def (q : ℚ) :
    roundRat q = if 0 ≤ q then ⌊q + 1/2⌋ else -⌊-q + 1/2⌋ := rfl

theorem roundRat_intCast (n : Int) : roundRat (n : ℚ) = n := by
  rw [roundRat_def]
  split_ifs with h
  · rw [Int.floor_eq_iff]; constructor <;> linarith
  · have : ⌊-(n : ℚ) + 1/2⌋ = -n := by
      rw [Int.floor_eq_iff]; constructor <;> push_cast <;> linarith
    rw [this]; ring

theorem roundRat_eq_truncRat (q : ℚ) :
    roundRat q = truncRat (q + if 0 ≤ q then 1 / 2 else -(1 / 2)) := by
  rw [roundRat_def, truncRat_def]
  by_cases h : 0 ≤ q
  · rw [if_pos h, if_pos h, if_pos (by linarith)]
  · rw [if_neg h, if_neg h, if_neg (by linarith), neg_add, neg_neg]

theorem roundRat_mono {a b : ℚ} (h : a ≤ b) : roundRat a ≤ roundRat b := by
  rw [roundRat_eq_truncRat, roundRat_eq_truncRat]
  exact truncRat_mono (by split_ifs <;> linarith)

theorem roundRat_le_of_le_intCast {q : ℚ} {n : Int} (h : q ≤ n) : roundRat q ≤ n :=
  (roundRat_mono h).trans_eq (roundRat_intCast n)

theorem le_roundRat_of_intCast_le {q : ℚ} {n : Int} (h : (n : ℚ) ≤ q) : n ≤ roundRat q :=
  (roundRat_intCast n).ge.trans (roundRat_mono h)

@[simp] theorem round_fin (q : ℚ) : round (fin q) = fin (roundRat q) := rfl

theorem round_mono {x y : F64} (h : le x y = true) : le (round x) (round y) = true :=
  le_map round (fun _ => rfl) (fun _ _ hab => by
    simp only [round_fin, le_fin_fin]; exact_mod_cast roundRat_mono hab) h

theorem toInt_round_intCast (indef : Int) {n : Int} (h1 : -(2:Int)^63 ≤ n) (h2 : n < (2:Int)^63) :
    toInt indef (round (fin (n : ℚ))) = n := by
  rw [round_fin, roundRat_intCast, toInt_intCast indef h1 h2]

theorem toInt_round_of_bounds (indef : Int) {q : ℚ} {lo hi : Int} (hlo : (lo : ℚ) ≤ q)
    (hhi : q ≤ hi) (h1 : -(2:Int)^63 ≤ lo) (h2 : hi < (2:Int)^63) :
    toInt indef (round (fin q)) = roundRat q ∧ lo ≤ roundRat q ∧ roundRat q ≤ hi := by
  have a := le_roundRat_of_intCast_le hlo
  have b := roundRat_le_of_le_intCast hhi
  rw [round_fin, toInt_intCast indef (by omega) (by omega)]
  exact ⟨rfl, a, b⟩

theorem toF32_mono {x y : F64} (h : le x y = true) : le (toF32 x) (toF32 y) = true :=
  le_map toF32 (fun _ => rfl)
    (fun _ _ hab => by rw [toF32_fin, toF32_fin]; exact overflowAt_mono (fl32_mono hab)) h

theorem toF32_fin_of_abs_le {q : ℚ} (h : |q| ≤ pow2 127) : toF32 (fin q) = fin (fl32 q) :=
  (toF32_fin q).trans <| overflowAt_fin <|
    (abs_flr_le_of_abs_le_rep (by norm_num) (rep32_pow2 127 (by norm_num)) h).trans_lt
      (pow2_lt (by norm_num))

theorem toF32_of_rep32 {q : ℚ} (hq : Rep32 q) (h : |q| ≤ pow2 127) : toF32 (fin q) = fin q := by
  rw [toF32_fin_of_abs_le h, fl32_of_rep hq]

@[simp] theorem fmin_fin_fin (a b : ℚ) : fmin (fin a) (fin b) = fin (min a b) := by
  simp only [fmin]; split_ifs with h
  · rw [min_eq_left h]
  · rw [min_eq_right (not_le.mp h).le]

@[simp] theorem fmax_fin_fin (a b : ℚ) : fmax (fin a) (fin b) = fin (max a b) := by
  simp only [fmax]; split_ifs with h
  · rw [max_eq_right h]
  · rw [max_eq_left (not_le.mp h).le]

theorem abs_fin (q : ℚ) : F64.abs (fin q) = fin |q| := by
  by_cases h : q < 0
  · rw [F64.abs, if_pos h, abs_of_neg h]
  · rw [F64.abs, if_neg h, abs_of_nonneg (not_lt.1 h)]

theorem ceil_fin (q : ℚ) : F64.ceil (fin q) = fin (⌈q⌉ : ℚ) := by
  show fin (-((⌊-q⌋ : Int) : ℚ)) = _
  rw [Int.floor_neg, Int.cast_neg, neg_neg]

theorem lt_intCast (x y : Int) : lt (fin (x : ℚ)) (fin (y : ℚ)) = decide (x < y) :=
  decide_eq_decide.2 Int.cast_lt

theorem gt_intCast (x y : Int) : gt (fin (x : ℚ)) (fin (y : ℚ)) = decide (y < x) := lt_intCast y x

theorem abs_intCast (x : Int) : F64.abs (fin (x : ℚ)) = fin ((|x| : Int) : ℚ) := by
  rw [abs_fin, Int.cast_abs]

theorem ceil_intCast (x : Int) : F64.ceil (fin (x : ℚ)) = fin (x : ℚ) := by
  rw [ceil_fin, Int.ceil_intCast]

end F64

/-- the ramp `(t ⊖ x) ⊘ (x' ⊖ x)` of the linear curve and of `util.Ratio`. -/
theorem fl64_ramp_mem_unit {t x x' : ℚ} (h1 : x ≤ t) (h2 : t ≤ x') :
    0 ≤ fl64 (fl64 (t - x) / fl64 (x' - x)) ∧ fl64 (fl64 (t - x) / fl64 (x' - x)) ≤ 1 :=
  fl64_div_mem_unit (fl64_nonneg (sub_nonneg.mpr h1)) (fl64_mono (by linarith))

theorem fl64_ramp_mono {t t' x x' : ℚ} (hx : x ≤ x') (h : t ≤ t') :
    fl64 (fl64 (t - x) / fl64 (x' - x)) ≤ fl64 (fl64 (t' - x) / fl64 (x' - x)) :=
  fl64_mono (div_le_div_of_nonneg_right (fl64_mono (by linarith)) (fl64_nonneg (by linarith)))

/-- The three roundings of `float64(float64(float64(u)/W)·c)`, each added by `fl64_near` to the
    error so far. -/
theorem fl64_ramp_close {u W c : ℚ} (hu : 0 ≤ u) (huW : u ≤ W) (hW : 1 ≤ W) (hWr : Rep64 W)
    (hc : 0 ≤ c) :
    |fl64 (fl64 (fl64 u / W) * c) - c * (u / W)|
      ≤ (3 * c) * pow2 (-53) + (2 * c + 1) * pow2 (-1075) := by
  have hW0 : 0 < W := by linarith
  have hε := pow2_nonneg (-53)
  have hη := pow2_nonneg (-1075)
  have e1 : |fl64 u / W - u / W| ≤ pow2 (-53) + pow2 (-1075) := by
    have := fl64_err_le (z := u) (M := W) (by rwa [abs_of_nonneg hu])
    rw [← sub_div, abs_div, abs_of_pos hW0, div_le_iff₀ hW0]
    linarith [le_mul_of_one_le_right hη hW]
  have b1 : |fl64 u / W| ≤ 1 := by
    rw [abs_of_nonneg (div_nonneg (fl64_nonneg hu) hW0.le)]
    exact div_le_one_of_le₀ (fl64_le_of_le_rep hWr huW) hW0.le
  have e2 := fl64_near b1 e1
  have b2 : |fl64 (fl64 u / W)| ≤ 1 := abs_fl64_le_of_abs_le_rep fl64_one b1
  have e3 : |fl64 (fl64 u / W) * c - c * (u / W)|
      ≤ c * (pow2 (-53) * 1 + pow2 (-1075) + (pow2 (-53) + pow2 (-1075))) := by
    rw [mul_comm _ c, ← mul_sub, abs_mul, abs_of_nonneg hc]
    exact mul_le_mul_of_nonneg_left e2 hc
  have b3 : |fl64 (fl64 u / W) * c| ≤ c := by
    rw [abs_mul, abs_of_nonneg hc]; exact mul_le_of_le_one_left hc b2
  have e4 := fl64_near b3 e3
  linarith

theorem ramp_fin {t x x' : ℚ} (n : Nat) (hx : Rep64 x) (hx' : Rep64 x') (h1 : x ≤ t) (h2 : t < x')
    (hb : |x| ≤ 2 ^ n) (hb' : |x'| ≤ 2 ^ n) (hn : n ≤ 1022 := by norm_num) :
    (fin t - fin x) / (fin x' - fin x) = fin (fl64 (fl64 (t - x) / fl64 (x' - x))) := by
  have lx := (abs_le.mp hb).1
  have ux' := (abs_le.mp hb').2
  have hD : 0 < fl64 (x' - x) := fl64_sub_pos_of_rep hx hx' (h1.trans_lt h2)
  have hN : 0 ≤ fl64 (t - x) := fl64_nonneg (by linarith)
  have hND : fl64 (t - x) ≤ fl64 (x' - x) := fl64_mono (by linarith)
  have hw : ∀ {u : ℚ}, x ≤ u → u ≤ x' → |u - x| ≤ 2 ^ (n + 1) := fun h h' => by
    rw [abs_of_nonneg (sub_nonneg.mpr h), pow_succ]; linarith
  rw [sub_fin_fin, sub_fin_fin, ofRat_fin_of_abs_le_two_pow (n + 1) (hw h1 h2.le) (by omega),
    ofRat_fin_of_abs_le_two_pow (n + 1) (hw (h1.trans h2.le) le_rfl) (by omega),
    div_fin_fin _ hD.ne']
  exact ofRat_fin_of_abs_le_two_pow 0 (by
    rw [abs_of_nonneg (div_nonneg hN hD.le)]; simpa using div_le_one_of_le₀ hND hD.le)

/-- a byte: a curve value, a PWM value. -/
abbrev In255 (v : Int) : Prop := 0 ≤ v ∧ v ≤ 255

theorem ofInt_byte {n : Int} (h0 : 0 ≤ n) (h1 : n ≤ 255) : ofInt n = fin (n : ℚ) :=
  ofInt_small (abs_le.mpr ⟨by omega, by omega⟩)

theorem byte_rep32 {n : Int} (h0 : 0 ≤ n) (h1 : n ≤ 255) : Rep32 (n : ℚ) :=
  rep32_intCast n (abs_le.mpr ⟨by omega, by omega⟩)

theorem byte_sub_abs_le {c x : Int} (hc0 : 0 ≤ c) (hc1 : c ≤ 255) (hx0 : 0 ≤ x) (hx1 : x ≤ 255) :
    |((c - x : Int) : ℚ)| ≤ 255 := by
  have : |c - x| ≤ 255 := abs_le.mpr ⟨by omega, by omega⟩
  exact_mod_cast this

theorem byte_ofInt_sub {c x : Int} (hc0 : 0 ≤ c) (hc1 : c ≤ 255) (hx0 : 0 ≤ x) (hx1 : x ≤ 255) :
    (ofInt c - ofInt x : F64) = fin ((c - x : Int) : ℚ) := by
  rw [ofInt_byte hc0 hc1, ofInt_byte hx0 hx1, sub_intCast (abs_le.mpr ⟨by omega, by omega⟩)]

/-- **NaN leaks through `Coerce`**: both guards are comparisons, and every comparison with NaN is
    false. -/
theorem coerce_nan (lo hi : F64) : coerce nan lo hi = nan := by
  simp [coerce]

theorem coerce_ne_nan {x lo hi : F64} (hx : x ≠ nan) (hlo : lo ≠ nan) (hhi : hi ≠ nan) :
    coerce x lo hi ≠ nan := by
  unfold coerce; split
  · exact hhi
  · split
    · exact hlo
    · exact hx

theorem coerce_fin (a lo hi : ℚ) :
    coerce (fin a) (fin lo) (fin hi) = fin (if hi < a then hi else if a < lo then lo else a) := by
  unfold coerce
  simp only [gt_fin_fin, lt_fin_fin]
  split_ifs <;> rfl

theorem coerce_inf (s : Bool) (lo hi : ℚ) :
    coerce (inf s) (fin lo) (fin hi) = fin (if s then lo else hi) := by
  cases s <;> rfl

theorem coerce_intCast (v : Int) {lo hi : Int} (h : lo ≤ hi) :
    coerce (fin (v : ℚ)) (fin (lo : ℚ)) (fin (hi : ℚ)) = fin ((max lo (min hi v) : Int) : ℚ) := by
  rw [coerce_fin]
  simp only [Int.cast_lt]
  split_ifs <;> congr 2 <;> omega

theorem coerce_range {x : F64} {lo hi : ℚ} (hx : x ≠ nan) (h : lo ≤ hi) :
    ∃ q, coerce x (fin lo) (fin hi) = fin q ∧ lo ≤ q ∧ q ≤ hi := by
  cases x with
  | nan => exact absurd rfl hx
  | inf s => exact ⟨_, coerce_inf s lo hi, by cases s <;> simp [h]⟩
  | fin a =>
    refine ⟨_, coerce_fin a lo hi, ?_⟩
    split_ifs <;> constructor <;> linarith

theorem coerce_id {a lo hi : ℚ} (h1 : lo ≤ a) (h2 : a ≤ hi) :
    coerce (fin a) (fin lo) (fin hi) = fin a := by
  rw [coerce_fin, if_neg (not_lt.mpr h2), if_neg (not_lt.mpr h1)]

end Fan2go
