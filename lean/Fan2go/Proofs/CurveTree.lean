/-
  `SpeedCurve.Evaluate` over a curve table (`evalCurve` / `evalMembers`). Evaluation never changes
  the static part `cfgOf` of the table (`Proofs/CurveTable.lean`), so the members of a function
  curve can be taken one by one on whatever table the previous ones left (`evalMembers_rel`); the
  range of a well-formed curve tree and the monotonicity of a monotone one follow by induction on
  the depth. At the end the PID curve on a NaN loop value, and two successive evaluations of one.
-/
import Fan2go.Proofs.CurveTable
import Fan2go.Proofs.FnCurves
import Fan2go.Proofs.Interp
import Fan2go.Proofs.Linear

namespace Fan2go
open F64

/-- A curve tree that the configuration validator is meant to guarantee: leaves are linear curves
    (min/max form with 64-bit `min`, `max`; or steps form with a non-empty step list satisfying
    `StepsOK`) whose sensor exists and reports a non-NaN average; inner nodes are function curves of
    one of the six types with at least one and at most `2^40` members. The index bounds the depth. -/
inductive WFCurve (sensors : SensorTable) (cfg : String → Option CurveCfg) : Nat → String → Prop
  | minmax {n : Nat} {id sensor : String} {mn mx : Int} {sv : SensorView} :
      cfg id = some (.linear sensor mn mx none) → |mn| ≤ 2 ^ 63 → |mx| ≤ 2 ^ 63 →
      sensors.get? sensor = some sv → sv.avg ≠ nan → WFCurve sensors cfg (n + 1) id
  | steps {n : Nat} {id sensor : String} {mn mx : Int} {sv : SensorView} {x : Int} {y : ℚ}
      {rest : List (Int × ℚ)} :
      cfg id = some (.linear sensor mn mx (some (toSteps ((x, y) :: rest)))) →
      StepsOK ((x, y) :: rest) →
      sensors.get? sensor = some sv → sv.avg ≠ nan → WFCurve sensors cfg (n + 1) id
  | fn {n : Nat} {id ty : String} {members : List String} :
      cfg id = some (.function ty members) → IsFnType ty → members ≠ [] →
      members.length ≤ 2 ^ 40 → (∀ m ∈ members, WFCurve sensors cfg n m) →
      WFCurve sensors cfg (n + 1) id

theorem WFCurve.mono {sensors : SensorTable} {cfg : String → Option CurveCfg} {n : Nat}
    {id : String} (h : WFCurve sensors cfg n id) : WFCurve sensors cfg (n + 1) id := by
  induction h with
  | minmax h1 h2 h3 h4 h5 => exact .minmax h1 h2 h3 h4 h5
  | steps h1 h2 h3 h4 => exact .steps h1 h2 h3 h4
  | fn h1 h2 h3 h4 _ ih => exact .fn h1 h2 h3 h4 ih

def RelOk {α : Type} (R : α → α → Prop) (r r' : Res α) : Prop :=
  ∃ v v', r = .ok v ∧ r' = .ok v' ∧ R v v'

theorem evalMembers_rel (indef : Int) (S S' : SensorTable) (now now' : Int) (fuel : Nat)
    {R : Int → Int → Prop} {σ σ' : String → Option CurveCfg} (ms : List String)
    (H : ∀ m ∈ ms, ∀ t t', cfgOf t = σ → cfgOf t' = σ' →
      RelOk R (evalCurve indef S now fuel t m).2 (evalCurve indef S' now' fuel t' m).2) :
    ∀ tbl tbl', cfgOf tbl = σ → cfgOf tbl' = σ' →
      RelOk (List.Forall₂ R) (evalMembers indef S now fuel tbl ms).2
        (evalMembers indef S' now' fuel tbl' ms).2 := by
  induction ms with
  | nil =>
    intro tbl tbl' _ _
    exact ⟨[], [], by rw [evalMembers_nil], by rw [evalMembers_nil], .nil⟩
  | cons m ms ih =>
    intro tbl tbl' ht ht'
    obtain ⟨v, v', h1, h1', hR⟩ := H m List.mem_cons_self tbl tbl' ht ht'
    obtain ⟨vs, vs', h2, h2', hRs⟩ := ih (fun m' hm' => H m' (List.mem_cons_of_mem _ hm'))
      _ _ ((cfgOf_evalCurve indef S now fuel tbl m).trans ht)
      ((cfgOf_evalCurve indef S' now' fuel tbl' m).trans ht')
    refine ⟨v :: vs, v' :: vs', ?_, ?_, .cons hR hRs⟩
    · rw [evalMembers_cons, h1, Res.bind, h2]; rfl
    · rw [evalMembers_cons, h1', Res.bind, h2']; rfl

theorem evalMembers_all (indef : Int) (S : SensorTable) (now : Int) (fuel : Nat) {P : Int → Prop}
    {σ : String → Option CurveCfg} (ms : List String)
    (H : ∀ m ∈ ms, ∀ t, cfgOf t = σ → ∃ v, (evalCurve indef S now fuel t m).2 = .ok v ∧ P v)
    (tbl : CurveTable) (ht : cfgOf tbl = σ) :
    ∃ vs, (evalMembers indef S now fuel tbl ms).2 = .ok vs ∧ ∀ v ∈ vs, P v := by
  obtain ⟨vs, _, e, _, hf⟩ := evalMembers_rel indef S S now now fuel (R := fun v _ => P v) ms
    (fun m hm t t' ht ht' =>
      let ⟨v, hv, hp⟩ := H m hm t ht
      let ⟨v', hv', _⟩ := H m hm t' ht'
      ⟨v, v', hv, hv', hp⟩) tbl tbl ht ht
  exact ⟨vs, e, hf.forall_left fun _ _ h => h⟩

theorem evalCurve_range (indef : Int) (S : SensorTable) (now : Int) (fuel : Nat) :
    ∀ tbl id, WFCurve S (cfgOf tbl) fuel id →
      ∃ v, (evalCurve indef S now fuel tbl id).2 = .ok v ∧ In255 v := by
  induction fuel with
  | zero => intro tbl id h; cases h
  | succ fuel ih =>
    intro tbl id h
    cases h with
    | minmax h1 h2 h3 h4 h5 =>
      rw [evalCurve_cfg_linear h1 h4]
      exact ⟨_, rfl, linMinMax_range indef h5 h2 h3⟩
    | steps h1 h2 h4 h5 =>
      rw [evalCurve_cfg_linear h1 h4]
      exact linSteps_range indef h2 (List.cons_ne_nil _ _) h5
    | fn h1 h2 h3 h4 h5 =>
      obtain ⟨vs, e, hin⟩ := evalMembers_all indef S now fuel _
        (fun m hm t ht => ih t m (by rw [ht]; exact h5 m hm)) tbl rfl
      have hl := evalMembers_length indef S now fuel _ tbl vs e
      rw [evalCurve_cfg_function h1, e]
      exact evalFn_range indef h2 hin (by omega) (evalMembers_ne_nil e h3)

/-- every sensor of `S` exists in `S'` with an average that is not smaller (Go `<=`; in particular
    neither average is NaN). -/
def SensorsLe (S S' : SensorTable) : Prop :=
  ∀ s sv, S.get? s = some sv → ∃ sv', S'.get? s = some sv' ∧ le sv.avg sv'.avg = true

/-- A monotone curve tree: as `WFCurve`, but step speeds are non-decreasing binary32 values and
    inner nodes are `sum`, `maximum`, `minimum` or `average`. -/
inductive WFMonoCurve (sensors : SensorTable) (cfg : String → Option CurveCfg) : Nat → String → Prop
  | minmax {n : Nat} {id sensor : String} {mn mx : Int} {sv : SensorView} :
      cfg id = some (.linear sensor mn mx none) → |mn| ≤ 2 ^ 63 → |mx| ≤ 2 ^ 63 →
      sensors.get? sensor = some sv → WFMonoCurve sensors cfg (n + 1) id
  | steps {n : Nat} {id sensor : String} {mn mx : Int} {sv : SensorView} {x : Int} {y : ℚ}
      {rest : List (Int × ℚ)} :
      cfg id = some (.linear sensor mn mx (some (toSteps ((x, y) :: rest)))) →
      StepsOK ((x, y) :: rest) → StepsMono ((x, y) :: rest) →
      sensors.get? sensor = some sv → WFMonoCurve sensors cfg (n + 1) id
  | fn {n : Nat} {id ty : String} {members : List String} :
      cfg id = some (.function ty members) → IsMonoFnType ty → members ≠ [] →
      members.length ≤ 2 ^ 40 → (∀ m ∈ members, WFMonoCurve sensors cfg n m) →
      WFMonoCurve sensors cfg (n + 1) id

theorem IsMonoFnType.isFnType {ty : String} (h : IsMonoFnType ty) : IsFnType ty := by
  rcases h with rfl | rfl | rfl | rfl <;> unfold IsFnType <;> simp

theorem WFMonoCurve.toWF {S S' : SensorTable} (hS : SensorsLe S S')
    {cfg : String → Option CurveCfg} {n : Nat} {id : String} (h : WFMonoCurve S cfg n id) :
    WFCurve S cfg n id ∧ WFCurve S' cfg n id := by
  induction h with
  | minmax h1 h2 h3 h4 =>
    obtain ⟨sv', hs', hle⟩ := hS _ _ h4
    exact ⟨.minmax h1 h2 h3 h4 (ne_nan_of_le_left hle), .minmax h1 h2 h3 hs' (ne_nan_of_le_right hle)⟩
  | steps h1 h2 _ h4 =>
    obtain ⟨sv', hs', hle⟩ := hS _ _ h4
    exact ⟨.steps h1 h2 h4 (ne_nan_of_le_left hle), .steps h1 h2 hs' (ne_nan_of_le_right hle)⟩
  | fn h1 h2 h3 h4 _ ih =>
    exact ⟨.fn h1 h2.isFnType h3 h4 (fun m hm => (ih m hm).1),
      .fn h1 h2.isFnType h3 h4 (fun m hm => (ih m hm).2)⟩

def LeIn255 (v v' : Int) : Prop := In255 v ∧ v ≤ v' ∧ In255 v'

theorem RelOk.leIn255 {r r' : Res Int} (h : RelOk (· ≤ ·) r r') (hr : ∃ v, r = .ok v ∧ In255 v)
    (hr' : ∃ v, r' = .ok v ∧ In255 v) : RelOk LeIn255 r r' := by
  obtain ⟨v, v', rfl, rfl, hle⟩ := h
  obtain ⟨_, e, hv⟩ := hr
  obtain ⟨_, e', hv'⟩ := hr'
  cases e; cases e'
  exact ⟨v, v', rfl, rfl, hv, hle, hv'⟩

theorem evalCurve_mono (indef : Int) (S S' : SensorTable) (hS : SensorsLe S S') (now now' : Int)
    (fuel : Nat) : ∀ tbl tbl' id, cfgOf tbl = cfgOf tbl' → WFMonoCurve S (cfgOf tbl) fuel id →
      RelOk LeIn255 (evalCurve indef S now fuel tbl id).2 (evalCurve indef S' now' fuel tbl' id).2 := by
  induction fuel with
  | zero => intro tbl tbl' id _ h; cases h
  | succ fuel ih =>
    intro tbl tbl' id hcfg h
    have hwf := h.toWF hS
    -- both values are in range as those of well-formed trees; what is left is their order
    refine RelOk.leIn255 ?_ (evalCurve_range indef S now _ tbl id hwf.1)
      (evalCurve_range indef S' now' _ tbl' id (hcfg ▸ hwf.2))
    cases h with
    | minmax h1 h2 h3 h4 =>
      obtain ⟨sv', hs', hle⟩ := hS _ _ h4
      rw [evalCurve_cfg_linear h1 h4, evalCurve_cfg_linear (hcfg ▸ h1) hs']
      exact ⟨_, _, rfl, rfl, linMinMax_mono_ext indef hle h2 h3⟩
    | steps h1 h2 h3 h4 =>
      obtain ⟨sv', hs', hle⟩ := hS _ _ h4
      rw [evalCurve_cfg_linear h1 h4, evalCurve_cfg_linear (hcfg ▸ h1) hs']
      exact linSteps_mono indef h2 h3 (List.cons_ne_nil _ _) hle
    | fn h1 h2 h3 h4 h5 =>
      obtain ⟨vs, vs', e, e', hf⟩ := evalMembers_rel indef S S' now now' fuel _
        (fun m hm t t' ht ht' => ih t t' m (ht.trans ht'.symm) (by rw [ht]; exact h5 m hm))
        tbl tbl' rfl hcfg.symm
      have hl := evalMembers_length indef S now fuel _ tbl vs e
      rw [evalCurve_cfg_function h1, e, evalCurve_cfg_function (hcfg ▸ h1), e']
      exact evalFn_mono indef h2 (hf.imp fun _ _ h => h.2.1)
        (hf.forall_left fun _ _ h => h.1) (hf.forall_right fun _ _ h => h.2.2) (by omega)
        (fun _ => evalMembers_ne_nil e h3)

/-- a NaN loop value passes `Coerce` and the scaling; `int(NaN)` is implementation-defined. -/
theorem pidValue_nan (indef : Int) : pidValue indef nan = indef := by
  unfold pidValue
  rw [coerce_nan]
  simp

theorem pidValue_zero (indef : Int) : pidValue indef (fin 0) = 0 := by
  unfold pidValue
  rw [ofInt_zero, ofInt_one, ofInt_255, coerce_id (le_refl _) (by norm_num), mul_fin_fin,
    zero_mul, ofRat_zero, toInt_fin_zero]

/-- a table holding one freshly constructed PID curve (`NewPidLoop(p, i, d)`). -/
def pidCurve (p i d setPoint : F64) : Curve :=
  { id := "c", cfg := .pid "s" setPoint, pid := { p := p, i := i, d := d } }

def pidSensors (reading : F64) : SensorTable := [("s", { avg := reading, value := .ok reading })]

/-- outcomes of two successive `Evaluate()` calls at clock readings `now₁`, `now₂` with sensor
    readings `m₁`, `m₂`. -/
def pidTwice (indef : Int) (p i d setPoint m₁ m₂ : F64) (now₁ now₂ : Int) : Res Int × Res Int :=
  let r1 := evalCurve indef (pidSensors m₁) now₁ 1 [pidCurve p i d setPoint] "c"
  let r2 := evalCurve indef (pidSensors m₂) now₂ 1 r1.1 "c"
  (r1.2, r2.2)

/-- loop values of the two evaluations, straight from `util.PidLoop.Loop`. -/
def pidTwiceLoop (p i d setPoint m₁ m₂ : F64) (now₁ now₂ : Int) : F64 × F64 :=
  let s1 := pidLoop { p := p, i := i, d := d } setPoint (m₁ / ofRat 1000) now₁
  let s2 := pidLoop s1.1 setPoint (m₂ / ofRat 1000) now₂
  (s1.2, s2.2)

theorem pidTwice_eq (indef : Int) (p i d setPoint m₁ m₂ : F64) (now₁ now₂ : Int) :
    pidTwice indef p i d setPoint m₁ m₂ now₁ now₂ =
      (.ok (pidValue indef (pidTwiceLoop p i d setPoint m₁ m₂ now₁ now₂).1),
       .ok (pidValue indef (pidTwiceLoop p i d setPoint m₁ m₂ now₁ now₂).2)) := by
  unfold pidTwice
  -- the lookups of `"c"` and `"s"` in the one-entry tables compute
  rw [evalCurve_pid indef _ now₁ 0 _ "c" _ "s" setPoint m₁ _ rfl rfl rfl rfl]
  dsimp only
  rw [evalCurve_pid indef _ now₂ 0 _ "c" _ "s" setPoint m₂ _ rfl rfl rfl rfl]
  rfl

end Fan2go
