/-
  The curve table as a map `id ↦ Curve`: `get?` / `set`; its static part `cfgOf` (`id ↦ cfg`), which
  evaluation never changes whatever the table, the fuel and the outcome (`cfgOf_evalCurve`); the
  outcome of `evalCurve` / `evalMembers` by kind of curve, read from the table entry or from `cfgOf`
  alone (`evalCurve_cfg_*`). Core Lean only.
-/
import Fan2go.Model.Curves
import Fan2go.Proofs.Util

namespace Fan2go

theorem CurveTable.get?_id {tbl : CurveTable} {id : String} {c : Curve} (h : tbl.get? id = some c) :
    c.id = id := by
  simpa using List.find?_some h

theorem CurveTable.get?_set (tbl : CurveTable) (c : Curve) (j : String) :
    (tbl.set c).get? j = (tbl.get? j).map fun x => if x.id == c.id then c else x := by
  unfold CurveTable.get? CurveTable.set
  rw [List.find?_map]
  congr 2
  funext x
  by_cases hx : x.id = c.id <;> simp [hx]

/-- configuration of the curve `id` (the first entry with that id; in the tables of accepted
    configurations ids are distinct, as the keys of the Go map are). -/
def cfgOf (tbl : CurveTable) (id : String) : Option CurveCfg := (tbl.get? id).map (·.cfg)

theorem cfgOf_get {tbl : CurveTable} {id : String} {k : CurveCfg} (h : cfgOf tbl id = some k) :
    ∃ c, tbl.get? id = some c ∧ c.cfg = k ∧ c.id = id := by
  obtain ⟨c, hc, hk⟩ := Option.map_eq_some_iff.1 h
  exact ⟨c, hc, hk, CurveTable.get?_id hc⟩

theorem cfgOf_set {tbl : CurveTable} {c : Curve}
    (h : ∀ c0, tbl.get? c.id = some c0 → c.cfg = c0.cfg) : cfgOf (tbl.set c) = cfgOf tbl := by
  funext j
  unfold cfgOf
  rw [CurveTable.get?_set]
  cases hg : tbl.get? j with
  | none => rfl
  | some x =>
    obtain rfl := CurveTable.get?_id hg
    by_cases hx : x.id = c.id
    · simp [hx, h x (hx ▸ hg)]
    · simp [hx]

theorem evalCurve_function (indef : Int) (sensors : SensorTable) (now : Int) (fuel : Nat)
    (tbl : CurveTable) (id : String) (c : Curve) (ty : String) (members : List String)
    (hget : tbl.get? id = some c) (hcfg : c.cfg = .function ty members) :
    (evalCurve indef sensors now (fuel + 1) tbl id).2 =
      (evalMembers indef sensors now fuel tbl members).2.bind (evalFn indef ty) := by
  rw [evalCurve]
  simp only [hget, hcfg]
  rcases evalMembers indef sensors now fuel tbl members with ⟨tbl', r⟩
  cases r with
  | ok vs =>
    simp only [Res.bind]
    cases evalFn indef ty vs <;> rfl
  | err e => rfl
  | panic s => rfl

theorem evalMembers_cons (indef : Int) (sensors : SensorTable) (now : Int) (fuel : Nat)
    (tbl : CurveTable) (m : String) (ms : List String) :
    (evalMembers indef sensors now fuel tbl (m :: ms)).2 =
      (evalCurve indef sensors now fuel tbl m).2.bind (fun v =>
        (evalMembers indef sensors now fuel (evalCurve indef sensors now fuel tbl m).1 ms).2.bind
          (fun vs => .ok (v :: vs))) := by
  rw [evalMembers]
  rcases evalCurve indef sensors now fuel tbl m with ⟨tbl', r⟩
  cases r with
  | ok v =>
    simp only [Res.bind]
    rcases evalMembers indef sensors now fuel tbl' ms with ⟨tbl'', r'⟩
    cases r' <;> rfl
  | err e => rfl
  | panic s => rfl

theorem evalMembers_nil (indef : Int) (sensors : SensorTable) (now : Int) (fuel : Nat)
    (tbl : CurveTable) : evalMembers indef sensors now fuel tbl [] = (tbl, .ok []) := by
  rw [evalMembers]

/-- outcome of a linear curve on the view of its sensor: the inner `match steps` of `evalCurve`. -/
def linOutcome (indef : Int) (sv : SensorView) (mn mx : Int) : Option (List (Int × F64)) → Res Int
  | some st => linSteps indef sv.avg st
  | none => .ok (linMinMax indef sv.avg mn mx)

theorem evalCurve_linear (indef : Int) (sensors : SensorTable) (now : Int) (fuel : Nat)
    (tbl : CurveTable) (id : String) (c : Curve) (sensor : String) (mn mx : Int)
    (steps : Option (List (Int × F64))) (sv : SensorView) (hget : tbl.get? id = some c)
    (hcfg : c.cfg = .linear sensor mn mx steps) (hs : sensors.get? sensor = some sv) :
    (evalCurve indef sensors now (fuel + 1) tbl id).2 = linOutcome indef sv mn mx steps := by
  rw [evalCurve]
  simp only [hget, hcfg, hs]
  cases steps with
  | none => rfl
  | some st =>
    simp only [linOutcome]
    cases linSteps indef sv.avg st <;> rfl

theorem evalCurve_cfg_function {indef : Int} {sensors : SensorTable} {now : Int} {fuel : Nat}
    {tbl : CurveTable} {id ty : String} {members : List String}
    (h : cfgOf tbl id = some (.function ty members)) :
    (evalCurve indef sensors now (fuel + 1) tbl id).2 =
      (evalMembers indef sensors now fuel tbl members).2.bind (evalFn indef ty) := by
  obtain ⟨c, hget, hcfg, -⟩ := cfgOf_get h
  exact evalCurve_function indef sensors now fuel tbl id c ty members hget hcfg

theorem evalCurve_cfg_linear {indef : Int} {sensors : SensorTable} {now : Int} {fuel : Nat}
    {tbl : CurveTable} {id sensor : String} {mn mx : Int} {steps : Option (List (Int × F64))}
    {sv : SensorView} (h : cfgOf tbl id = some (.linear sensor mn mx steps))
    (hs : sensors.get? sensor = some sv) :
    (evalCurve indef sensors now (fuel + 1) tbl id).2 = linOutcome indef sv mn mx steps := by
  obtain ⟨c, hget, hcfg, -⟩ := cfgOf_get h
  exact evalCurve_linear indef sensors now fuel tbl id c sensor mn mx steps sv hget hcfg hs

/-- `int(Coerce(loopValue, 0, 1) * 255)` -/
def pidValue (indef : Int) (loopValue : F64) : Int :=
  F64.toInt indef (coerce loopValue (F64.ofInt 0) (F64.ofInt 1) * F64.ofInt 255)

theorem evalCurve_pid (indef : Int) (sensors : SensorTable) (now : Int) (fuel : Nat)
    (tbl : CurveTable) (id : String) (c : Curve) (sensor : String) (setPoint measured : F64)
    (sv : SensorView) (hget : tbl.get? id = some c) (hcfg : c.cfg = .pid sensor setPoint)
    (hs : sensors.get? sensor = some sv) (hv : sv.value = .ok measured) :
    evalCurve indef sensors now (fuel + 1) tbl id
      = (tbl.set { c with
            value := pidValue indef (pidLoop c.pid setPoint (measured / F64.ofRat 1000) now).2,
            pid := (pidLoop c.pid setPoint (measured / F64.ofRat 1000) now).1 },
         .ok (pidValue indef (pidLoop c.pid setPoint (measured / F64.ofRat 1000) now).2)) := by
  rw [evalCurve]
  simp only [hget, hcfg, hs, hv]
  rfl

theorem interp_ok (st : List (Int × F64)) (x : F64) (h : st ≠ []) : ∃ v, interp st x = .ok v := by
  cases st with
  | nil => exact absurd rfl h
  | cons a as => exact ⟨_, rfl⟩

theorem evalCurve_linear_ok (indef : Int) (sensors : SensorTable) (now : Int) (fuel : Nat)
    (tbl : CurveTable) (id : String) (c : Curve) (sensor : String) (mn mx : Int)
    (steps : Option (List (Int × F64))) (sv : SensorView) (hget : tbl.get? id = some c)
    (hcfg : c.cfg = .linear sensor mn mx steps) (hs : sensors.get? sensor = some sv)
    (hst : steps ≠ some []) :
    ∃ v, (evalCurve indef sensors now (fuel + 1) tbl id).2 = .ok v := by
  rw [evalCurve_linear indef sensors now fuel tbl id c sensor mn mx steps sv hget hcfg hs]
  cases steps with
  | none => exact ⟨_, rfl⟩
  | some st =>
    obtain ⟨v, hv⟩ := interp_ok st (sv.avg / F64.ofInt 1000) (fun h => hst (by rw [h]))
    exact ⟨F64.toInt indef (F64.round v), by simp [linOutcome, linSteps, hv, bind, Res.bind, pure]⟩

theorem cfgOf_evalMembers (indef : Int) (sensors : SensorTable) (now : Int) (fuel : Nat)
    (ih : ∀ tbl id, cfgOf (evalCurve indef sensors now fuel tbl id).1 = cfgOf tbl)
    (ms : List String) (tbl : CurveTable) :
    cfgOf (evalMembers indef sensors now fuel tbl ms).1 = cfgOf tbl := by
  induction ms generalizing tbl with
  | nil => rw [evalMembers]
  | cons m ms ihm =>
    have h1 := ih tbl m
    rw [evalMembers]
    generalize evalCurve indef sensors now fuel tbl m = p at h1 ⊢
    obtain ⟨tbl', r⟩ := p
    cases r with
    | ok v =>
      have h2 := ihm tbl'
      dsimp only
      generalize evalMembers indef sensors now fuel tbl' ms = q at h2 ⊢
      obtain ⟨tbl'', r'⟩ := q
      cases r' <;> exact h2.trans h1
    | err e => exact h1
    | panic s => exact h1

theorem cfgOf_evalCurve (indef : Int) (sensors : SensorTable) (now : Int) (fuel : Nat) :
    ∀ tbl id, cfgOf (evalCurve indef sensors now fuel tbl id).1 = cfgOf tbl := by
  induction fuel with
  | zero => intro tbl id; rw [evalCurve]
  | succ fuel ih =>
    intro tbl id
    rw [evalCurve]
    cases hget : tbl.get? id with
    | none => rfl
    | some c =>
      dsimp only
      have hid := CurveTable.get?_id hget
      have hset : ∀ c' : Curve, c'.id = c.id → c'.cfg = c.cfg → cfgOf (tbl.set c') = cfgOf tbl :=
        fun c' h1 h2 => cfgOf_set fun c0 h0 => by rw [h1, hid, hget] at h0; cases h0; exact h2
      cases hcfg : c.cfg with
      | linear sensor mn mx steps =>
        dsimp only
        cases sensors.get? sensor with
        | none => rfl
        | some sv =>
          dsimp only
          split
          · exact hset _ rfl hcfg.symm
          · rfl
      | pid sensor sp =>
        dsimp only
        cases sensors.get? sensor with
        | none => rfl
        | some sv =>
          dsimp only
          cases sv.value with
          | ok m => exact hset _ rfl hcfg.symm
          | err e => rfl
          | panic s => rfl
      | function ty ms =>
        dsimp only
        have hm := cfgOf_evalMembers indef sensors now fuel ih ms tbl
        rcases hr : evalMembers indef sensors now fuel tbl ms with ⟨tbl', r⟩
        rw [hr] at hm
        cases r with
        | ok vs =>
          dsimp only
          cases evalFn indef ty vs with
          | ok v =>
            dsimp only
            refine (cfgOf_set ?_).trans hm
            intro c0 h0
            cases hg : tbl'.get? id with
            | none => simp only [hg, Option.getD_none, hid] at h0; cases h0
            | some c1 =>
              simp only [hg, Option.getD_some, CurveTable.get?_id hg, Option.some.injEq] at h0 ⊢
              rw [h0]
          | err e => exact hm
          | panic s => exact hm
        | err e => exact hm
        | panic s => exact hm

/-- `tbl'` is the table state in which that member was evaluated; all that is known of it is its
    static part. -/
theorem evalMembers_panic_origin (indef : Int) (sensors : SensorTable) (now : Int) (fuel : Nat)
    (ms : List String) (tbl : CurveTable) (s : String)
    (h : (evalMembers indef sensors now fuel tbl ms).2 = .panic s) :
    ∃ m ∈ ms, ∃ tbl', cfgOf tbl' = cfgOf tbl ∧
      (evalCurve indef sensors now fuel tbl' m).2 = .panic s := by
  induction ms generalizing tbl with
  | nil => rw [evalMembers_nil] at h; cases h
  | cons m ms ih =>
    rw [evalMembers_cons] at h
    rcases Res.bind_eq_panic h with hm | ⟨v, -, h⟩
    · exact ⟨m, List.mem_cons_self, tbl, rfl, hm⟩
    · rcases Res.bind_eq_panic h with ht | ⟨vs, -, h⟩
      · obtain ⟨m', hm', tbl', hcfg, h'⟩ := ih _ ht
        exact ⟨m', List.mem_cons_of_mem _ hm', tbl',
          hcfg.trans (cfgOf_evalCurve indef sensors now fuel tbl m), h'⟩
      · cases h

theorem evalMembers_length (indef : Int) (sensors : SensorTable) (now : Int) (fuel : Nat)
    (ms : List String) (tbl : CurveTable) (vs : List Int)
    (h : (evalMembers indef sensors now fuel tbl ms).2 = .ok vs) : vs.length = ms.length := by
  induction ms generalizing tbl vs with
  | nil => rw [evalMembers_nil] at h; cases h; rfl
  | cons m ms ih =>
    rw [evalMembers_cons] at h
    obtain ⟨v, -, h⟩ := Res.bind_eq_ok h
    obtain ⟨vs', h', e⟩ := Res.bind_eq_ok h
    cases e
    rw [List.length_cons, List.length_cons, ih _ _ h']

theorem evalMembers_ne_nil {indef : Int} {sensors : SensorTable} {now : Int} {fuel : Nat}
    {ms : List String} {tbl : CurveTable} {vs : List Int}
    (h : (evalMembers indef sensors now fuel tbl ms).2 = .ok vs) (hne : ms ≠ []) : vs ≠ [] :=
  fun e => hne (List.length_eq_zero_iff.mp
    (by rw [← evalMembers_length indef sensors now fuel ms tbl vs h, e]; rfl))

end Fan2go
