/-
  Integral wind-up of the PID loop after ONE huge elapsed time (suspend/resume): the integral jumps
  by `err · T`; the request then stays saturated for a long time.
-/
import Fan2go.Proofs.PidLoop
namespace Fan2go
open F64

theorem secondsOfNanos_3h : secondsOfNanos 10800000000000 = fin 10800 := by decide +kernel

/-- The integral jumps by `100 · 10800 = 1 080 000`; from `|I| ≤ 1000` it lands within
    `1000 + eps < 1001` of that (`1078999`, `1081001`). -/
theorem windup_first (indef : Int) {s : PidSt × Int} {last c now : Int} (r : RunSt0 s last)
    (hI0 : |intOf s.1| ≤ 1000) (he : c - s.2 = 100) (hc1 : c ≤ 255)
    (hT : now - last = 10800000000000) :
    RunSt0 (pidClosed indef c s now) now ∧ (pidClosed indef c s now).2 = 255 ∧
    1078999 ≤ intOf (pidClosed indef c s now).1 ∧ intOf (pidClosed indef c s now).1 ≤ 1081001 := by
  have hx0 := r.x0
  have hsec : secondsOfNanos (now - last) = fin 10800 := by rw [hT]; exact secondsOfNanos_3h
  have hcast : ((c - s.2 : Int) : ℚ) = 100 := by rw [he]; norm_num
  obtain ⟨r', _, ha⟩ := r.step indef (t := 10800) (by omega) hc1 hsec
    ⟨r.x0, r.x1, r.ep, by rw [hcast]; norm_num [abs_of_pos], hI0.trans (by norm_num), by norm_num,
      by rw [hcast]; norm_num [abs_of_pos]⟩
  have hI := abs_le.mp hI0
  have hJ := abs_le.mp ha.Jc
  rw [hcast, eps_val] at hJ
  have hlo : 1078999 ≤ intOf (pidClosed indef c s now).1 := by linarith only [hJ.1, hI.1]
  exact ⟨r', ha.sat_hi (by norm_num) (by linarith only [hlo]), hlo, by linarith only [hJ.2, hI.2]⟩

/-- `511`: `|e·t| ≤ 510` (`TickOk.mul_abs`) and `eps`; `19711 = 19200 + 511`: the new integral still
    saturates (`AStep.sat_hi`); `2^21`: the operands stay finite (`CycOk.I`). -/
theorem windup_next (indef : Int) {s : PidSt × Int} {last c now : Int} (r : RunSt0 s last)
    (hx : s.2 = 255) (hlo : 19711 ≤ intOf s.1) (hhi : intOf s.1 ≤ 2 ^ 21)
    (hc0 : 0 ≤ c) (hc1 : c ≤ 255) (h0 : 50000000 ≤ now - last) (h1 : now - last ≤ 2000000000) :
    RunSt0 (pidClosed indef c s now) now ∧ (pidClosed indef c s now).2 = 255 ∧
    intOf s.1 - 511 ≤ intOf (pidClosed indef c s now).1 ∧
    intOf (pidClosed indef c s now).1 ≤ intOf s.1 := by
  obtain ⟨hsec, htick, _⟩ := secondsOfNanos_tick h0 h1
  have hI21 : |intOf s.1| ≤ 2 ^ 21 := abs_le.mpr ⟨by linarith only [hlo], hhi⟩
  have hcyc := CycOk.of_tick hc0 hc1 r.x0 r.x1 r.ep hI21 (by linarith [htick.t0]) htick.t1
  obtain ⟨r', _, ha⟩ := r.step indef hc0 hc1 hsec hcyc
  have het := abs_le.mp (htick.mul_abs hcyc.e_abs)
  have hJ := abs_le.mp ha.Jc
  rw [eps_val] at hJ
  have hdec : intOf s.1 - 511 ≤ intOf (pidClosed indef c s now).1 := by
    linarith only [hJ.1, het.1]
  exact ⟨r', ha.sat_hi htick.t0 (by linarith only [hdec, hlo]), hdec, ha.Jle (by omega)⟩

theorem windup_run (indef c : Int) (nows : Nat → Int) (s0 : PidSt × Int)
    (r0 : RunSt0 s0 (nows 0)) (hI0 : |intOf s0.1| ≤ 1000) (he : c - s0.2 = 100) (hc1 : c ≤ 255)
    (hT : nows 1 - nows 0 = 10800000000000)
    (hticks : ∀ k, 1 ≤ k →
      50000000 ≤ nows (k + 1) - nows k ∧ nows (k + 1) - nows k ≤ 2000000000) :
    ∀ j : Nat, j ≤ 1000 →
      RunSt0 (pidRun indef (fun _ => c) nows s0 (j + 1)) (nows (j + 1)) ∧
      (pidRun indef (fun _ => c) nows s0 (j + 1)).2 = 255 ∧
      1078999 - 511 * (j : ℚ) ≤ intOf (pidRun indef (fun _ => c) nows s0 (j + 1)).1 ∧
      intOf (pidRun indef (fun _ => c) nows s0 (j + 1)).1 ≤ 1081001 := by
  have hc0 : 0 ≤ c := by have := r0.x0; omega
  intro j
  induction j with
  | zero =>
    intro _
    obtain ⟨a, b, c', d⟩ := windup_first indef (now := nows 1) r0 hI0 he hc1 hT
    exact ⟨a, b, by rw [Nat.cast_zero, mul_zero, sub_zero]; exact c', d⟩
  | succ j ih =>
    intro hj
    obtain ⟨a, b, c', d⟩ := ih (by omega)
    have hjq : (j : ℚ) ≤ 1000 := by exact_mod_cast (by omega : j ≤ 1000)
    obtain ⟨a', b', c'', d'⟩ := windup_next indef (c := c) (now := nows (j + 1 + 1)) a b
      (by linarith) (by linarith) hc0 hc1 (hticks (j + 1) (by omega)).1 (hticks (j + 1) (by omega)).2
    rw [pidRun_succ]
    refine ⟨a', b', ?_, d'.trans d⟩
    push_cast; linarith

end Fan2go
