/-
  The fan operations that see the fan and the device only (`fanSetPwm`, `setPwmEnabled`,
  `trySetManualPwm`) and `restorePwmEnabled`, which of the controller state reads the mode and PWM
  captured at start-up: the model of hwmon.go:166-179 and controller.go:383-419.  Core Lean only.
-/
import Fan2go.Spec.Controller
namespace Fan2go

theorem fanSetPwm_applied {d : Dev} (h : d.pwmWrite = .applied) (v : Int) :
    fanSetPwm d v = ({ d with pwm := d.resp.apply v }, .ok ()) := by
  simp [fanSetPwm, h]

theorem fanSetPwm_ignored {d : Dev} (h : d.pwmWrite = .ignored) (v : Int) :
    fanSetPwm d v = (d, .ok ()) := by
  simp [fanSetPwm, h]

theorem fanSetPwm_refused {d : Dev} (h : d.pwmWrite = .refused) (v : Int) :
    fanSetPwm d v = (d, .err "write") := by
  simp [fanSetPwm, h]

theorem fanSetPwm_cases (d : Dev) (v : Int) :
    (fanSetPwm d v).2 = .ok () ∨ ∃ e, (fanSetPwm d v).2 = .err e := by
  unfold fanSetPwm; split <;> simp

theorem fanGetPwm_no_panic (d : Dev) : ∀ s, fanGetPwm d ≠ .panic s := by
  intro s
  unfold fanGetPwm
  split <;> nofun

theorem fanGetRpm_cases (f : FanSt) (d : Dev) :
    (∃ v, fanGetRpm f d = .ok v) ∨ (∃ e, fanGetRpm f d = .err e) := by
  unfold fanGetRpm
  split
  · split
    · exact .inl ⟨_, rfl⟩
    · exact .inr ⟨_, rfl⟩
  · cases d.rpmRead
    · exact .inl ⟨_, rfl⟩
    · exact .inr ⟨_, rfl⟩
    · exact .inr ⟨_, rfl⟩

/-- `d'` has the fault switches and the response of `d`: only registers may differ -/
structure SameSwitches (d d' : Dev) : Prop where
  resp : d'.resp = d.resp
  pwmRead : d'.pwmRead = d.pwmRead
  pwmWrite : d'.pwmWrite = d.pwmWrite
  modeRead : d'.modeRead = d.modeRead
  modeWrite : d'.modeWrite = d.modeWrite
  rpmRead : d'.rpmRead = d.rpmRead
  hasMode : d'.hasMode = d.hasMode
  hasRpm : d'.hasRpm = d.hasRpm

theorem SameSwitches.trans {a b c : Dev} (h : SameSwitches a b) (g : SameSwitches b c) : SameSwitches a c :=
  ⟨g.resp.trans h.resp, g.pwmRead.trans h.pwmRead, g.pwmWrite.trans h.pwmWrite, g.modeRead.trans h.modeRead,
    g.modeWrite.trans h.modeWrite, g.rpmRead.trans h.rpmRead, g.hasMode.trans h.hasMode, g.hasRpm.trans h.hasRpm⟩

theorem SameSwitches.supports {d d' : Dev} (h : SameSwitches d d') (f : FanSt) (x : Feature) :
    supports f d' x = supports f d x := by
  unfold Fan2go.supports; rw [h.hasMode, h.pwmRead, h.hasRpm]

theorem fanSetPwm_switches (d : Dev) (v : Int) : SameSwitches d (fanSetPwm d v).1 := by
  unfold fanSetPwm
  split <;> exact ⟨rfl, rfl, rfl, rfl, rfl, rfl, rfl, rfl⟩

theorem setPwmEnabled_frame (f : FanSt) (d : Dev) (v : Int) :
    ((setPwmEnabled f d v).1 = d ∨ (setPwmEnabled f d v).1 = { d with mode := v }) ∧
    ∀ x ∈ (setPwmEnabled f d v).2.2, ∃ b, x = Obs.wroteMode v b := by
  unfold setPwmEnabled
  cases f.kind <;> cases d.modeWrite <;> simp [apply_ite Prod.fst, apply_ite Prod.snd]

theorem setPwmEnabled_switches (f : FanSt) (d : Dev) (v : Int) : SameSwitches d (setPwmEnabled f d v).1 := by
  rcases (setPwmEnabled_frame f d v).1 with h | h <;> rw [h] <;> exact ⟨rfl, rfl, rfl, rfl, rfl, rfl, rfl, rfl⟩

theorem setPwmEnabled_hwmon_eq {f : FanSt} (hk : f.kind = .hwmon) (d : Dev) (v : Int) :
    setPwmEnabled f d v =
      if d.modeWrite = .refused then (d, .err "write", [.wroteMode v false])
      else
        let d1 : Dev := if d.modeWrite = .applied then { d with mode := v } else d
        let good : Bool := match d1.modeRead with
          | .ok => d1.mode == v
          | .errPerm => true
          | .errOther x => x == v
        (d1, if good then .ok () else .err "stuck", [.wroteMode v true]) := by
  unfold setPwmEnabled fanGetPwmEnabled
  simp only [hk]
  cases hw : d.modeWrite <;> cases hr : d.modeRead <;> simp [hr] <;> split <;> simp_all

/-- `SetPwmEnabled` returns nil only if the register shows the value, or the read-back is blind
    (permission error: "continuing assuming it worked"), or the read-back failed otherwise but the
    value returned beside the error happens to equal the requested one. -/
theorem setPwmEnabled_ok {f : FanSt} {d d' : Dev} {v : Int} {o : List Obs}
    (hk : f.kind = .hwmon) (h : setPwmEnabled f d v = (d', .ok (), o)) :
    (d'.modeRead = .ok ∧ d'.mode = v) ∨ d'.modeRead = .errPerm ∨ d'.modeRead = .errOther v := by
  rw [setPwmEnabled_hwmon_eq hk] at h
  split at h
  · cases h
  · dsimp only at h
    generalize (if d.modeWrite = .applied then { d with mode := v } else d : Dev) = d1 at h
    simp only [Prod.mk.injEq, ite_eq_left_iff, reduceCtorEq, imp_false, Decidable.not_not] at h
    obtain ⟨rfl, hgood, -⟩ := h
    split at hgood
    · next e => exact .inl ⟨e, by simpa using hgood⟩
    · next e => exact .inr (.inl e)
    · next x e => exact .inr (.inr (by rw [e, beq_iff_eq.1 hgood]))

theorem setPwmEnabled_applied {f : FanSt} {d : Dev} (v : Int)
    (hk : f.kind = .hwmon) (hw : d.modeWrite = .applied) (hr : d.modeRead = .ok) :
    setPwmEnabled f d v = ({ d with mode := v }, .ok (), [.wroteMode v true]) := by
  simp [setPwmEnabled_hwmon_eq hk, hw, hr]

theorem trySetManualPwm_frame (f : FanSt) (d : Dev) :
    (∃ m, (trySetManualPwm f d).1 = { d with mode := m }) ∧
    ∀ x ∈ (trySetManualPwm f d).2.2, ∃ m b, x = Obs.wroteMode m b := by
  unfold trySetManualPwm
  split
  · exact ⟨⟨d.mode, rfl⟩, nofun⟩
  · obtain ⟨hd1, ho1⟩ := setPwmEnabled_frame f d 1
    obtain ⟨hd0, ho0⟩ := setPwmEnabled_frame f (setPwmEnabled f d 1).1 0
    obtain ⟨m, hm⟩ : ∃ m, (setPwmEnabled f d 1).1 = { d with mode := m } :=
      hd1.elim (fun h => ⟨d.mode, h⟩) (fun h => ⟨1, h⟩)
    split
    · next heq => rw [heq] at hm ho1; exact ⟨⟨m, hm⟩, fun x hx => ⟨1, ho1 x hx⟩⟩
    · next heq =>
      rw [heq] at hm ho1 hd0 ho0
      dsimp only at hm ho1 hd0 ho0 ⊢
      subst hm
      exact ⟨hd0.elim (fun h => ⟨m, h⟩) (fun h => ⟨0, h⟩),
        fun x hx => (List.mem_append.mp hx).elim (fun h => ⟨1, ho1 x h⟩) (fun h => ⟨0, ho0 x h⟩)⟩

theorem trySetManualPwm_switches (f : FanSt) (d : Dev) : SameSwitches d (trySetManualPwm f d).1 := by
  obtain ⟨m, h⟩ := (trySetManualPwm_frame f d).1; rw [h]; exact ⟨rfl, rfl, rfl, rfl, rfl, rfl, rfl, rfl⟩

theorem trySetManualPwm_mode {f : FanSt} {d : Dev} (hs : supports f d .controlMode = true)
    (hw : d.modeWrite = .applied) (hr : d.modeRead = .ok) :
    (trySetManualPwm f d).1 = { d with mode := 1 } := by
  have hk : f.kind = .hwmon := by simp [supports] at hs; exact hs.1
  unfold trySetManualPwm
  simp only [hs, setPwmEnabled_applied 1 hk hw hr]
  simp

/-- `restorePwmEnabled` either hands the fan back (`SetPwmEnabled(original)` returned nil, for one of
    the three reasons of `setPwmEnabled_ok`) or falls through to the PWM 255 write. -/
theorem restore_cases (w : World) :
    (∃ d2, SameSwitches w.dev d2 ∧ supports w.fan w.dev .controlMode = true ∧ w.ctl.origMode ≠ 1 ∧
        ((w.dev.modeRead = .ok ∧ d2.mode = w.ctl.origMode) ∨ w.dev.modeRead = .errPerm ∨
          w.dev.modeRead = .errOther w.ctl.origMode) ∧
        (restorePwmEnabled w).1 = { w with dev := d2 })
    ∨ (∃ d2, SameSwitches w.dev d2 ∧ (restorePwmEnabled w).1 = { w with dev := (fanSetPwm d2 255).1 }) := by
  have f1 := fanSetPwm_switches w.dev w.ctl.origPwm
  have f2 := setPwmEnabled_switches w.fan (fanSetPwm w.dev w.ctl.origPwm).1 w.ctl.origMode
  unfold restorePwmEnabled
  dsimp only
  by_cases htry : (supports w.fan (fanSetPwm w.dev w.ctl.origPwm).1 .controlMode && w.ctl.origMode != 1) = true
  · simp only [htry, if_true]
    rcases hsp : setPwmEnabled w.fan (fanSetPwm w.dev w.ctl.origPwm).1 w.ctl.origMode with ⟨d2, r, o⟩
    rw [hsp] at f2
    cases r with
    | ok u =>
      simp only [Bool.and_eq_true, bne_iff_ne, f1.supports] at htry
      have hk : w.fan.kind = .hwmon := by
        have := htry.1; simp [supports] at this; exact this.1
      have hok := setPwmEnabled_ok hk hsp
      rw [(f1.trans f2).modeRead] at hok
      exact .inl ⟨d2, f1.trans f2, htry.1, htry.2, hok, rfl⟩
    | err e | panic e => exact .inr ⟨d2, f1.trans f2, rfl⟩
  · simp only [htry]
    exact .inr ⟨_, f1, rfl⟩

/-- the hand-back exit with what it wrote: the original PWM and then the mode, no PWM 255. -/
theorem restore_handed_back {w : World} {d2 : Dev} {o : List Obs}
    (hs : supports w.fan w.dev .controlMode = true) (hne : w.ctl.origMode ≠ 1)
    (h : setPwmEnabled w.fan (fanSetPwm w.dev w.ctl.origPwm).1 w.ctl.origMode = (d2, .ok (), o)) :
    restorePwmEnabled w = ({ w with dev := d2 },
      .wrotePwm w.ctl.origPwm (match (fanSetPwm w.dev w.ctl.origPwm).2 with | .ok _ => true | _ => false) :: o) := by
  have htry : (supports w.fan (fanSetPwm w.dev w.ctl.origPwm).1 .controlMode && w.ctl.origMode != 1) = true := by
    rw [(fanSetPwm_switches _ _).supports, hs, Bool.true_and, bne_iff_ne]; exact hne
  unfold restorePwmEnabled
  simp only [htry, h, if_true]
  rfl

end Fan2go
