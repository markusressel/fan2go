/-
  Instantiation (`toCurveTable`) and evaluation (`evalCurve`) of an accepted configuration: C11 (run
  half), C09 (curves). Evaluation never changes the shape `id ↦ cfg` of the table (`cfgOf_evalCurve`).
  Totality is by induction on the fuel over a fixed shape, carrying the ancestors of the curve being
  evaluated: on an acyclic shape they are pairwise distinct function curves, at most `N` of them, so
  the fuel `N + 1` cannot run out.
-/
import Fan2go.Proofs.Config
import Fan2go.Proofs.CurveTable

namespace Fan2go
namespace Cfg
open Relation

abbrev Shape := String → Option CurveCfg

theorem get?_nil (id : String) : CurveTable.get? [] id = none := rfl

def SEdge (σ : Shape) (u v : String) : Prop := ∃ ty ms, σ u = some (.function ty ms) ∧ v ∈ ms

structure GoodShape (sensors : SensorTable) (σ : Shape) (N : Nat) : Prop where
  linear : ∀ id s mn mx steps, σ id = some (.linear s mn mx steps) →
    (∃ sv, sensors.get? s = some sv) ∧ steps ≠ some []
  pid : ∀ id s sp, σ id = some (.pid s sp) →
    ∃ sv, sensors.get? s = some sv ∧ ∀ site, sv.value ≠ .panic site
  function : ∀ id ty ms, σ id = some (.function ty ms) →
    ty ∈ supportedTypes ∧ ms ≠ [] ∧ ∀ m ∈ ms, (σ m).isSome = true
  acyclic : ∀ u, ¬ TransGen (SEdge σ) u u
  bound : ∀ path : List String, path.Nodup →
    (∀ p ∈ path, ∃ ty ms, σ p = some (.function ty ms)) → path.length ≤ N

theorem evalFn_ok (indef : Int) (ty : String) (vs : List Int) (hty : ty ∈ supportedTypes)
    (hvs : vs ≠ []) : ∃ v, evalFn indef ty vs = .ok v := by
  cases vs with
  | nil => exact absurd rfl hvs
  | cons v0 rest =>
    simp only [supportedTypes, List.mem_cons, List.not_mem_nil, or_false] at hty
    rcases hty with rfl | rfl | rfl | rfl | rfl | rfl <;> simp [evalFn]

theorem evalCurve_step_no_panic (indef : Int) (sensors : SensorTable) (now : Int) {σ : Shape} {N : Nat}
    (hg : GoodShape sensors σ N) (fuel : Nat) (T : CurveTable) (id : String) (hT : cfgOf T = σ)
    (hid : (σ id).isSome = true)
    (H : ∀ ty ms, σ id = some (.function ty ms) → ∀ m ∈ ms, ∀ T', cfgOf T' = σ →
      ∀ site, (evalCurve indef sensors now fuel T' m).2 ≠ .panic site) :
    ∀ site, (evalCurve indef sensors now (fuel + 1) T id).2 ≠ .panic site := by
  obtain ⟨cfg, hcfg⟩ := Option.isSome_iff_exists.1 hid
  obtain ⟨cu, hcu, hcucfg, -⟩ := cfgOf_get (hT ▸ hcfg)
  cases cfg with
  | linear s mn mx steps =>
    obtain ⟨⟨sv, hsv⟩, hsteps⟩ := hg.linear id s mn mx steps hcfg
    obtain ⟨v, hv⟩ := evalCurve_linear_ok indef sensors now fuel T id cu s mn mx steps sv hcu hcucfg hsv hsteps
    simp [hv]
  | pid s sp =>
    obtain ⟨sv, hsv, hval⟩ := hg.pid id s sp hcfg
    rw [evalCurve]
    simp only [hcu, hcucfg, hsv]
    cases hv : sv.value with
    | panic site => exact absurd hv (hval site)
    | _ => simp
  | function ty ms =>
    obtain ⟨hty, hne, -⟩ := hg.function id ty ms hcfg
    rw [evalCurve_function indef sensors now fuel T id cu ty ms hcu hcucfg]
    cases hr : (evalMembers indef sensors now fuel T ms).2 with
    | ok vs =>
      have hvs : vs ≠ [] := by
        rintro rfl
        exact hne (List.length_eq_zero_iff.1 (evalMembers_length indef sensors now fuel ms T [] hr).symm)
      obtain ⟨v, hv⟩ := evalFn_ok indef ty vs hty hvs
      simp [Res.bind, hv]
    | err e => simp [Res.bind]
    | panic s =>
      obtain ⟨m, hm, T', hT', hp⟩ := evalMembers_panic_origin indef sensors now fuel ms T s hr
      exact absurd hp (H ty ms hcfg m hm T' (hT'.trans hT) s)

theorem evalCurve_no_panic (indef : Int) (sensors : SensorTable) (now : Int) {σ : Shape} {N : Nat}
    (hg : GoodShape sensors σ N) :
    ∀ fuel T id (path : List String), cfgOf T = σ → (σ id).isSome = true → path.Nodup →
      (∀ p ∈ path, TransGen (SEdge σ) p id) → N + 1 ≤ path.length + fuel →
      ∀ site, (evalCurve indef sensors now fuel T id).2 ≠ .panic site := by
  intro fuel
  induction fuel with
  | zero =>
    intro T id path _ _ hnd hpath hlen
    have := hg.bound path hnd fun p hp =>
      let ⟨_, ⟨ty, ms, h1, _⟩, _⟩ := TransGen.head'_iff.1 (hpath p hp)
      ⟨ty, ms, h1⟩
    omega
  | succ fuel ih =>
    intro T id path hT hid hnd hpath hlen
    refine evalCurve_step_no_panic indef sensors now hg fuel T id hT hid fun ty ms hcfg m hm T' hT' => ?_
    have hedge : SEdge σ id m := ⟨ty, ms, hcfg, hm⟩
    refine ih T' m (id :: path) hT' ((hg.function id ty ms hcfg).2.2 m hm)
      (List.nodup_cons.2 ⟨fun h => hg.acyclic id (hpath id h), hnd⟩) ?_ (by simp only [List.length_cons]; omega)
    intro p hp
    rcases List.mem_cons.1 hp with rfl | hp
    · exact .single hedge
    · exact .tail (hpath p hp) hedge

/-- every sensor entry is backed by a sensor that delivers finite values -/
def SensorsDefined (c : Configuration) (sensors : SensorTable) : Prop :=
  ∀ s ∈ c.sensors, ∃ sv, sensors.get? s.id = some sv ∧ sv.avg.isFinite = true ∧
    ∃ x, sv.value = .ok x ∧ x.isFinite = true

/-- `GetValue` may return a value or an error (it never panics: `C08_getValue_total`); the moving
    average is arbitrary -/
def SensorsPresent (c : Configuration) (sensors : SensorTable) : Prop :=
  ∀ s ∈ c.sensors, ∃ sv, sensors.get? s.id = some sv ∧ ∀ site, sv.value ≠ .panic site

theorem SensorsDefined.present {c : Configuration} {sensors : SensorTable}
    (h : SensorsDefined c sensors) : SensorsPresent c sensors := by
  intro s hs
  obtain ⟨sv, h1, _, x, h2, _⟩ := h s hs
  exact ⟨sv, h1, fun site => by simp [h2]⟩

/-- `toCurve cc` has the curve configuration `k` -/
inductive Instantiates (cc : CurveConfig) : CurveCfg → Prop
  | linear {l : LinearCfg} : cc.linear = some l → Instantiates cc (.linear l.sensor l.min l.max l.steps)
  | pid {p : PidCfg} : cc.pid = some p → Instantiates cc (.pid p.sensor p.setPoint)
  | function {f : FunctionCfg} : cc.function = some f → Instantiates cc (.function f.type f.curves)

theorem toCurve_some {cc : CurveConfig} {cu : Curve} (h : toCurve cc = some cu) :
    cu.id = cc.id ∧ Instantiates cc cu.cfg := by
  unfold toCurve at h
  split at h <;> cases h
  · exact ⟨rfl, .linear ‹_›⟩
  · exact ⟨rfl, .pid ‹_›⟩
  · exact ⟨rfl, .function ‹_›⟩

theorem toCurve_isSome (cc : CurveConfig) (h : cc.subConfigs = 1) : (toCurve cc).isSome = true := by
  unfold toCurve
  split <;> simp_all [CurveConfig.subConfigs, b2n]

theorem shape_entry (c : Configuration) {id : String} {k : CurveCfg}
    (h : cfgOf (toCurveTable c) id = some k) : ∃ cc ∈ c.curves, cc.id = id ∧ Instantiates cc k := by
  obtain ⟨cu, hcu, rfl, hid⟩ := cfgOf_get h
  obtain ⟨cc, hcc, hto⟩ := List.mem_filterMap.1 (List.mem_of_find?_eq_some hcu)
  obtain ⟨hid', hk⟩ := toCurve_some hto
  exact ⟨cc, hcc, hid'.symm.trans hid, hk⟩

theorem toCurveTable_isSome (c : Configuration) (hb : oneBackend c) (id : String)
    (h : CurveDefined c id) : (cfgOf (toCurveTable c) id).isSome = true := by
  obtain ⟨cc, hcc, rfl⟩ := h
  obtain ⟨cu, hcu⟩ := Option.isSome_iff_exists.1 (toCurve_isSome cc (hb.2.1 cc hcc))
  have hmem : cu ∈ toCurveTable c := List.mem_filterMap.2 ⟨cc, hcc, hcu⟩
  have : ((toCurveTable c).get? cc.id).isSome = true :=
    List.find?_isSome.2 ⟨cu, hmem, by simp [(toCurve_some hcu).1]⟩
  simpa [cfgOf] using this

theorem sedge_memberOf (c : Configuration) (u v : String)
    (h : SEdge (cfgOf (toCurveTable c)) u v) : MemberOf c u v := by
  obtain ⟨ty, ms, hσ, hv⟩ := h
  obtain ⟨cc, hcc, hid, hk⟩ := shape_entry c hσ
  cases hk with | function hf =>
  exact ⟨cc, hcc, hid, _, hf, hv⟩

theorem Accepted.goodShape {c : Configuration} {permOk : Bool} (A : Accepted c permOk)
    (sensors : SensorTable) (hs : SensorsPresent c sensors) :
    GoodShape sensors (cfgOf (toCurveTable c)) c.curves.length := by
  have sens : ∀ s, SensorDefined c s →
      ∃ sv, sensors.get? s = some sv ∧ ∀ site, sv.value ≠ .panic site := by
    rintro _ ⟨s, hs', rfl⟩
    exact hs s hs'
  refine ⟨?_, ?_, ?_, ?_, ?_⟩
  · intro id s mn mx steps hσ
    obtain ⟨cc, hcc, -, hk⟩ := shape_entry c hσ
    cases hk with | linear hl =>
    obtain ⟨-, hdef, hst⟩ := (A.curve cc hcc).linear _ hl
    obtain ⟨sv, hsv, -⟩ := sens _ hdef
    exact ⟨⟨sv, hsv⟩, hst⟩
  · intro id s sp hσ
    obtain ⟨cc, hcc, -, hk⟩ := shape_entry c hσ
    cases hk with | pid hp =>
    exact sens _ ((A.curve cc hcc).pid _ hp).2.1
  · intro id ty ms hσ
    obtain ⟨cc, hcc, -, hk⟩ := shape_entry c hσ
    cases hk with | function hf =>
    obtain ⟨hty, hne, hms⟩ := (A.curve cc hcc).function _ hf
    exact ⟨hty, hne, fun m hm => toCurveTable_isSome c A.oneBackend m (hms m hm).2⟩
  · exact fun u huu => A.acyclic u (TransGen.mono (sedge_memberOf c) _ _ huu)
  · intro path hnd hp
    have hsub : path ⊆ c.curves.map (·.id) := fun p hpm =>
      let ⟨_, _, hσ⟩ := hp p hpm
      let ⟨cc, hcc, hid, _⟩ := shape_entry c hσ
      List.mem_map.2 ⟨cc, hcc, hid⟩
    exact (hnd.subperm hsub).length_le.trans (List.length_map _).le

/-- `hT`: any table state that evaluation can produce (`Value`s and PID memories arbitrary); the
    first conjunct re-establishes it, so the next cycle is covered again -/
theorem eval_no_panic_of_accepted (c : Configuration) (permOk : Bool)
    (h : validateConfig c permOk = .ok ())
    (indef : Int) (sensors : SensorTable) (now : Int) (hs : SensorsPresent c sensors)
    (T : CurveTable) (hT : cfgOf T = cfgOf (toCurveTable c)) :
    ∀ cc ∈ c.curves,
      cfgOf (evalCurve indef sensors now (c.curves.length + 1) T cc.id).1 = cfgOf (toCurveTable c) ∧
      ∀ site, (evalCurve indef sensors now (c.curves.length + 1) T cc.id).2 ≠ .panic site := by
  intro cc hcc
  have A := accepted h
  exact ⟨(cfgOf_evalCurve indef sensors now _ T cc.id).trans hT,
    evalCurve_no_panic indef sensors now (A.goodShape sensors hs) (c.curves.length + 1) T cc.id []
      hT (toCurveTable_isSome c A.oneBackend cc.id ⟨cc, hcc, rfl⟩)
      List.nodup_nil (by simp) (by simp)⟩

end Cfg
end Fan2go
