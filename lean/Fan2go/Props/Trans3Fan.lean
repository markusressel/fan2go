import Fan2go.Props.Trans3FanOps
import Fan2go.Props.Trans3A
import Fan2go.Props.Trans2Keys
namespace Fan2go
open F64
set_option linter.unusedVariables false  -- `h : w.fan.kind = .hwmon` is part of every statement, used or not

namespace T3F

theorem run_bind {σ α β : Type} (m : GoM σ α) (f : α → GoM σ β) (s : σ) :
    (m >>= f) s = match m s with
      | (.ok a, s') => f a s'
      | (.err e, s') => (.err e, s')
      | (.panic p, s') => (.panic p, s') := GoM.run_bind m f s
theorem run_pure {σ α : Type} (a : α) (s : σ) : (pure a : GoM σ α) s = (.ok a, s) := GoM.run_pure a s
theorem run_liftRes {σ α : Type} (r : Res α) (s : σ) : (Go.liftRes r : GoM σ α) s = (r, s) := GoM.run_liftRes r s
theorem run_deref_some {σ α : Type} (a : α) (s : σ) : (Go.deref (some a) : GoM σ α) s = (.ok a, s) :=
  GoM.run_deref_some a s

variable (w : World)

theorem h_read (p : String) : hwmonOps.readIntFromFile p w = (.ok (devRead p w.dev), w) := rfl
theorem h_write (v : Int) (p : String) :
    hwmonOps.writeIntToFile v p w = (.ok (devWrite v p w.dev).1, { w with dev := (devWrite v p w.dev).2 }) := rfl
theorem h_stat (p : String) : hwmonOps.stat p w = (.ok ((), devStat p w.dev), w) := rfl
theorem h_pwmPath : hwmonOps.get_Config_HwMon_PwmPath w = (.ok pwmPath, w) := rfl
theorem h_enablePath : hwmonOps.get_Config_HwMon_PwmEnablePath w = (.ok enablePath, w) := rfl
theorem h_rpmPath : hwmonOps.get_Config_HwMon_RpmInputPath w = (.ok rpmPath, w) := rfl
theorem h_neverStop : hwmonOps.get_Config_NeverStop w = (.ok w.fan.neverStop, w) := rfl
theorem h_cfgMin : hwmonOps.get_Config_MinPwm w = (.ok w.fan.cfgMin, w) := rfl
theorem h_cfgStart : hwmonOps.get_Config_StartPwm w = (.ok w.fan.cfgStart, w) := rfl
theorem h_cfgMax : hwmonOps.get_Config_MaxPwm w = (.ok w.fan.cfgMax, w) := rfl
theorem h_getMin : hwmonOps.get_MinPwm w = (.ok w.fan.minP, w) := rfl
theorem h_setMin (v : Option Int) :
    hwmonOps.set_MinPwm v w = (.ok (), { w with fan := { w.fan with minP := v } }) := rfl
theorem h_getStart : hwmonOps.get_StartPwm w = (.ok w.fan.startP, w) := rfl
theorem h_setStart (v : Option Int) :
    hwmonOps.set_StartPwm v w = (.ok (), { w with fan := { w.fan with startP := v } }) := rfl
theorem h_getMax : hwmonOps.get_MaxPwm w = (.ok w.fan.maxP, w) := rfl
theorem h_setMax (v : Option Int) :
    hwmonOps.set_MaxPwm v w = (.ok (), { w with fan := { w.fan with maxP := v } }) := rfl
theorem h_getAvg : hwmonOps.get_RpmMovingAvg w = (.ok w.fan.rpmAvg, w) := rfl
theorem h_setAvg (v : F64) :
    hwmonOps.set_RpmMovingAvg v w = (.ok (), { w with fan := { w.fan with rpmAvg := v } }) := rfl
-- `set_Rpm`, `set_Pwm`: assignments to the struct's fields `Rpm`, `Pwm` (the cache the REST API reads), not the methods
theorem h_setRpm (v : Int) : hwmonOps.set_Rpm v w = (.ok (), w) := rfl
theorem h_setPwm (v : Int) : hwmonOps.set_Pwm v w = (.ok (), w) := rfl
theorem h_getCurve : hwmonOps.get_FanCurveData w = (.ok w.fan.curveData, w) := rfl
theorem h_setCurve (v : Option (List (Int × F64))) :
    hwmonOps.set_FanCurveData v w = (.ok (), { w with fan := { w.fan with curveData := v } }) := rfl

attribute [gom] h_read h_write h_stat h_pwmPath h_enablePath h_rpmPath h_neverStop h_cfgMin h_cfgStart h_cfgMax h_getMin
  h_setMin h_getStart h_setStart h_getMax h_setMax h_getAvg h_setAvg h_setRpm h_setPwm h_getCurve h_setCurve

theorem enable_ne_pwm : enablePath ≠ pwmPath := by decide
theorem rpm_ne_pwm : rpmPath ≠ pwmPath := by decide
theorem rpm_ne_enable : rpmPath ≠ enablePath := by decide

theorem devRead_pwm (d : Dev) : devRead pwmPath d = readReg d.pwmRead d.pwm := by
  simp [devRead]
theorem devRead_enable (d : Dev) : devRead enablePath d = readReg d.modeRead d.mode := by
  simp [devRead, enable_ne_pwm]
theorem devRead_rpm (d : Dev) :
    devRead rpmPath d = if d.hasRpm then readReg d.rpmRead d.rpm else (-1, some "read") := by
  simp [devRead, rpm_ne_pwm, rpm_ne_enable]
theorem devWrite_pwm (v : Int) (d : Dev) :
    devWrite v pwmPath d = (t3ErrOf (fanSetPwm d v).2, (fanSetPwm d v).1) := by
  simp [devWrite]
theorem devWrite_enable (v : Int) (d : Dev) :
    devWrite v enablePath d = (match d.modeWrite with
     | .refused => (some "write", d)
     | .applied => (none, { d with mode := v })
     | .ignored => (none, d)) := by
  unfold devWrite
  rw [if_neg enable_ne_pwm, if_pos rfl]
  cases d.modeWrite <;> rfl
theorem devStat_enable (d : Dev) : devStat enablePath d = if d.hasMode then none else some "notexist" := by
  simp [devStat]
theorem devStat_rpm (d : Dev) : devStat rpmPath d = if d.hasRpm then none else some "notexist" := by
  simp [devStat, rpm_ne_enable]

end T3F

open T3F

variable (indef : Int) (curve : Res Int) (now : Int) (w : World)

theorem trans3_HwMonFan_Supports (h : w.fan.kind = .hwmon) (k : Int) :
    Generated3.HwMonFan_Supports indef hwmonOps k w = (modelOps indef curve now).fan_Supports k w := by
  unfold Generated3.HwMonFan_Supports
  rcases (by omega : k = 0 ∨ k = 1 ∨ k = 2 ∨ (k ≠ 0 ∧ k ≠ 1 ∧ k ≠ 2)) with rfl | rfl | rfl | ⟨h0, h1, h2⟩
  · cases hh : w.dev.pwmRead <;> simp [gom, devRead_pwm, supports, h, hh, readReg]
  · cases hh : w.dev.hasRpm <;> simp [gom, devStat_rpm, supports, hh]
  · cases hh : w.dev.hasMode <;> simp [gom, devStat_enable, supports, h, hh]
  · simp [gom, h0, h1, h2]

/-- without `hp` the statement is false: on `w.dev.pwmRead = .errPerm` the two sides differ (`diff_HwMonFan_GetPwm`) -/
theorem trans3_HwMonFan_GetPwm (h : w.fan.kind = .hwmon) (hp : w.dev.pwmRead ≠ .errPerm) :
    Generated3.HwMonFan_GetPwm indef hwmonOps w = (modelOps indef curve now).fan_GetPwm w := by
  unfold Generated3.HwMonFan_GetPwm
  simp only [gom, devRead_pwm]
  unfold fanGetPwm
  cases hh : w.dev.pwmRead <;> simp [readReg, goRead, hh] at hp ⊢

theorem diff_HwMonFan_GetPwm (hp : w.dev.pwmRead = .errPerm) :
    Generated3.HwMonFan_GetPwm indef hwmonOps w = (.ok (0, some "perm"), w)
    ∧ (modelOps indef curve now).fan_GetPwm w = (.ok (0, some "read"), w) := by
  unfold Generated3.HwMonFan_GetPwm
  simp only [gom, devRead_pwm]
  unfold fanGetPwm
  simp [readReg, goRead, hp]

theorem trans3_HwMonFan_SetPwm (h : w.fan.kind = .hwmon) (v : Int) :
    Generated3.HwMonFan_SetPwm indef hwmonOps v w = (modelOps indef curve now).fan_SetPwm v w := by
  unfold Generated3.HwMonFan_SetPwm
  simp only [gom, devWrite_pwm]

/-- without `hp` the statement is false: on `w.dev.hasRpm = true ∧ w.dev.rpmRead = .errPerm` the two sides differ
    (`diff_HwMonFan_GetRpm`) -/
theorem trans3_HwMonFan_GetRpm (h : w.fan.kind = .hwmon) (hp : w.dev.hasRpm = true → w.dev.rpmRead ≠ .errPerm) :
    Generated3.HwMonFan_GetRpm indef hwmonOps w = (modelOps indef curve now).fan_GetRpm w := by
  unfold Generated3.HwMonFan_GetRpm
  simp only [gom, devRead_rpm]
  unfold modelGetRpm fanGetRpm
  cases hr : w.dev.hasRpm
  · simp [h, goRead]
  · cases hh : w.dev.rpmRead <;> simp [readReg, goRead, hh, hr, h] at hp ⊢

theorem diff_HwMonFan_GetRpm (h : w.fan.kind = .hwmon) (hr : w.dev.hasRpm = true) (hp : w.dev.rpmRead = .errPerm) :
    Generated3.HwMonFan_GetRpm indef hwmonOps w = (.ok (0, some "perm"), w)
    ∧ (modelOps indef curve now).fan_GetRpm w = (.ok (0, some "read"), w) := by
  unfold Generated3.HwMonFan_GetRpm
  simp only [gom, devRead_rpm]
  unfold modelGetRpm fanGetRpm
  simp [readReg, goRead, hp, hr, h]

theorem trans3_HwMonFan_ShouldNeverStop (h : w.fan.kind = .hwmon) :
    Generated3.HwMonFan_ShouldNeverStop indef hwmonOps w = (modelOps indef curve now).fan_ShouldNeverStop w := by
  unfold Generated3.HwMonFan_ShouldNeverStop
  simp only [gom]

theorem trans3_HwMonFan_GetMinPwm (h : w.fan.kind = .hwmon) :
    Generated3.HwMonFan_GetMinPwm indef hwmonOps w = (modelOps indef curve now).fan_GetMinPwm w := by
  unfold Generated3.HwMonFan_GetMinPwm Generated3.HwMonFan_ShouldNeverStop
  simp only [gom]
  unfold FanSt.getMin
  cases w.fan.neverStop <;> cases w.fan.minP <;> simp [gom, h]

theorem trans3_HwMonFan_GetMaxPwm (h : w.fan.kind = .hwmon) :
    Generated3.HwMonFan_GetMaxPwm indef hwmonOps w = (modelOps indef curve now).fan_GetMaxPwm w := by
  unfold Generated3.HwMonFan_GetMaxPwm
  simp only [gom]
  unfold FanSt.getMax
  cases w.fan.maxP <;> simp [gom, h]

theorem trans3_HwMonFan_GetStartPwm (h : w.fan.kind = .hwmon) :
    Generated3.HwMonFan_GetStartPwm indef hwmonOps w = (.ok w.fan.getStart, w) := by
  unfold Generated3.HwMonFan_GetStartPwm
  simp only [gom]
  unfold FanSt.getStart
  cases w.fan.startP <;> simp [gom, h]

theorem trans3_HwMonFan_GetRpmAvg (h : w.fan.kind = .hwmon) :
    Generated3.HwMonFan_GetRpmAvg indef hwmonOps w = (modelOps indef curve now).fan_GetRpmAvg w := by
  unfold Generated3.HwMonFan_GetRpmAvg
  simp only [gom]
  simp [FanSt.getRpmAvg, h]

theorem trans3_HwMonFan_SetRpmAvg (h : w.fan.kind = .hwmon) (x : F64) :
    Generated3.HwMonFan_SetRpmAvg indef hwmonOps x w = (modelOps indef curve now).fan_SetRpmAvg x w := by
  unfold Generated3.HwMonFan_SetRpmAvg
  simp only [gom]
  simp [FanSt.setRpmAvg, h]

theorem trans3_HwMonFan_SetPwmEnabled (h : w.fan.kind = .hwmon) (v : Int) :
    Generated3.HwMonFan_SetPwmEnabled indef hwmonOps v w = (modelOps indef curve now).fan_SetPwmEnabled v w := by
  unfold Generated3.HwMonFan_SetPwmEnabled Generated3.HwMonFan_GetPwmEnabled
  simp only [gom, devWrite_enable, devRead_enable]
  unfold setPwmEnabled fanGetPwmEnabled
  cases w.dev.modeWrite <;> cases hr : w.dev.modeRead <;>
    simp [gom, h, hr, readReg, t3ErrOf]
  -- left: the value read back may differ from `v` (write ignored, or a failed read with another value): "stuck"
  all_goals split <;> simp_all

theorem trans3_HwMonFan_UpdateFanRpmCurveValue (h : w.fan.kind = .hwmon) (pwm : Int) (rpm : F64) :
    Generated3.HwMonFan_UpdateFanRpmCurveValue indef hwmonOps pwm rpm w
      = (modelOps indef curve now).fan_UpdateFanRpmCurveValue pwm rpm w := by
  unfold Generated3.HwMonFan_UpdateFanRpmCurveValue
  simp only [gom]
  unfold modelUpdateCurveValue Go.mapSet
  cases w.fan.curveData <;> simp [gom, h]

theorem trans3_HwMonFan_SetMinPwm (h : w.fan.kind = .hwmon) (pwm : Int) (force : Bool) :
    Generated3.HwMonFan_SetMinPwm indef hwmonOps pwm force w = (.ok (), { w with fan := w.fan.setMin pwm force }) := by
  unfold Generated3.HwMonFan_SetMinPwm FanSt.setMin
  simp only [gom]
  cases w.fan.cfgMin <;> cases force <;> simp [gom, h]

theorem trans3_HwMonFan_SetStartPwm (h : w.fan.kind = .hwmon) (pwm : Int) (force : Bool) :
    Generated3.HwMonFan_SetStartPwm indef hwmonOps pwm force w = (.ok (), { w with fan := w.fan.setStart pwm force }) := by
  unfold Generated3.HwMonFan_SetStartPwm FanSt.setStart
  simp only [gom]
  cases w.fan.cfgStart <;> cases force <;> simp [gom, h]

theorem trans3_HwMonFan_SetMaxPwm (h : w.fan.kind = .hwmon) (pwm : Int) (force : Bool) :
    Generated3.HwMonFan_SetMaxPwm indef hwmonOps pwm force w = (.ok (), { w with fan := w.fan.setMax pwm force }) := by
  unfold Generated3.HwMonFan_SetMaxPwm FanSt.setMax
  simp only [gom]
  cases w.fan.cfgMax <;> cases force <;> simp [gom, h]

theorem trans3_HwMonFan_GetPwmEnabled (h : w.fan.kind = .hwmon) :
    ∃ g, Generated3.HwMonFan_GetPwmEnabled indef hwmonOps w = (.ok g, w)
      ∧ g.1 = (fanGetPwmEnabled w.fan w.dev).1 ∧ (g.2 = none ↔ (fanGetPwmEnabled w.fan w.dev).2 = true) := by
  refine ⟨readReg w.dev.modeRead w.dev.mode, ?_, ?_⟩
  · unfold Generated3.HwMonFan_GetPwmEnabled
    simp only [gom, devRead_enable]
  · unfold fanGetPwmEnabled
    cases w.dev.modeRead <;> simp [h, readReg]

theorem kind_setStart (f : FanSt) (p : Int) (b : Bool) : (f.setStart p b).kind = f.kind := by
  unfold FanSt.setStart; split <;> (try split) <;> rfl
theorem kind_setMax (f : FanSt) (p : Int) (b : Bool) : (f.setMax p b).kind = f.kind := by
  unfold FanSt.setMax; split <;> (try split) <;> rfl
theorem kind_setMin (f : FanSt) (p : Int) (b : Bool) : (f.setMin p b).kind = f.kind := by
  unfold FanSt.setMin; split <;> (try split) <;> rfl

theorem T3F.getFanRpmCurveData_eq :
    Generated3.HwMonFan_GetFanRpmCurveData indef hwmonOps w = (.ok w.fan.curveData, w) := by
  unfold Generated3.HwMonFan_GetFanRpmCurveData
  simp only [gom]

theorem trans3_HwMonFan_AttachFanRpmCurveData (h : w.fan.kind = .hwmon) (data : Option (List (Int × F64)))
    (hs : ∀ d, data = some d → SortedMap d) :
    Generated3.HwMonFan_AttachFanRpmCurveData indef hwmonOps data w
      = (.ok (t3ErrOf (w.fan.attach indef data).2), { w with fan := (w.fan.attach indef data).1 }) := by
  unfold Generated3.HwMonFan_AttachFanRpmCurveData
  cases data with
  | none => simp [gom, FanSt.attach, h, t3ErrOf]
  | some d =>
    cases d with
    | nil => simp [gom, FanSt.attach, h, t3ErrOf, Go.lenM]
    | cons p rest =>
      have hsorted := hs _ rfl
      have hlen : ¬ ((Go.lenM (p :: rest)) ≤ 0) := by
        simp only [Go.lenM, List.length_cons]; omega
      simp only [gom, reduceCtorEq, if_false, hlen, decide_false, Bool.false_eq_true, getFanRpmCurveData_eq,
        trans3_HwMonFan_GetStartPwm, trans3_HwMonFan_SetStartPwm, trans3_HwMonFan_SetMaxPwm,
        trans3_HwMonFan_SetMinPwm, kind_setStart, kind_setMax, h,
        trans2_fans_ComputePwmBoundaries indef _ _ hsorted, FanSt.attach, t3ErrOf]

theorem trans3_HwMonFan_GetPwm_differs (h : w.fan.kind = .hwmon) (hp : w.dev.pwmRead = .errPerm) :
    Generated3.HwMonFan_GetPwm indef hwmonOps w ≠ (modelOps indef curve now).fan_GetPwm w := by
  rw [(diff_HwMonFan_GetPwm indef curve now w hp).1, (diff_HwMonFan_GetPwm indef curve now w hp).2]
  simp

theorem trans3_HwMonFan_GetRpm_differs (h : w.fan.kind = .hwmon) (hr : w.dev.hasRpm = true)
    (hp : w.dev.rpmRead = .errPerm) :
    Generated3.HwMonFan_GetRpm indef hwmonOps w ≠ (modelOps indef curve now).fan_GetRpm w := by
  rw [(diff_HwMonFan_GetRpm indef curve now w h hr hp).1, (diff_HwMonFan_GetRpm indef curve now w h hr hp).2]
  simp

-- the hypotheses of `trans3_HwMonFan_GetPwm_differs` and of `trans3_HwMonFan_GetRpm_differs` can be met
def wPwmPerm : World := { (default : World) with fan := {}, dev := { pwmRead := .errPerm } }
def wRpmPerm : World := { (default : World) with fan := {}, dev := { rpmRead := .errPerm } }
example : wPwmPerm.fan.kind = .hwmon ∧ wPwmPerm.dev.pwmRead = .errPerm := ⟨rfl, rfl⟩
example : wRpmPerm.fan.kind = .hwmon ∧ wRpmPerm.dev.hasRpm = true ∧ wRpmPerm.dev.rpmRead = .errPerm := ⟨rfl, rfl, rfl⟩

end Fan2go

#print axioms Fan2go.trans3_HwMonFan_Supports
#print axioms Fan2go.trans3_HwMonFan_GetPwm
#print axioms Fan2go.trans3_HwMonFan_SetPwm
#print axioms Fan2go.trans3_HwMonFan_GetRpm
#print axioms Fan2go.trans3_HwMonFan_GetMinPwm
#print axioms Fan2go.trans3_HwMonFan_GetMaxPwm
#print axioms Fan2go.trans3_HwMonFan_GetStartPwm
#print axioms Fan2go.trans3_HwMonFan_GetRpmAvg
#print axioms Fan2go.trans3_HwMonFan_SetRpmAvg
#print axioms Fan2go.trans3_HwMonFan_ShouldNeverStop
#print axioms Fan2go.trans3_HwMonFan_SetPwmEnabled
#print axioms Fan2go.trans3_HwMonFan_UpdateFanRpmCurveValue
#print axioms Fan2go.trans3_HwMonFan_SetMinPwm
#print axioms Fan2go.trans3_HwMonFan_SetStartPwm
#print axioms Fan2go.trans3_HwMonFan_SetMaxPwm
#print axioms Fan2go.trans3_HwMonFan_GetPwmEnabled
#print axioms Fan2go.trans3_HwMonFan_AttachFanRpmCurveData
#print axioms Fan2go.trans3_HwMonFan_GetPwm_differs
#print axioms Fan2go.trans3_HwMonFan_GetRpm_differs
