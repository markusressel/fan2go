/-
  C13  Measured fan limits follow the RPM curve; configured limits always win
       (internal/fans/common.go `ComputePwmBoundaries`, internal/fans/hwmon.go setters and
        `AttachFanRpmCurveData`; model: Model/Fan.lean)

  All theorems hold for every value `indef` of the implementation-defined result of `int(x)` for
  NaN / ±Inf / out-of-range `x`; "RPM in whole RPM" is `rpmOf indef p = toInt indef p.2`.

  Curve data are lists of (pwm, rpm) pairs sorted by key – the Go code iterates over
  `sort.Ints(keys)` of a map, so keys are distinct and increasing (`KeysSorted`). PWM keys are ≤ 255
  (`CurveData.le255`; with a key > 255 the code's initial candidate 255 would win instead).

  RESULT: the derivation of start/max from ONE attachment to a fresh fan, the refusal of empty data
  and "configured limits always win" are PROVED. The clause "repeated attachment of different data to
  the same fan" is REFUTED (`C13_reattach_refuted`): the second attachment keeps the start PWM
  measured by the first one, because `ComputePwmBoundaries` reads `fan.GetStartPwm()` – by then the
  previously MEASURED value – as if it were the user's override. `C13_reattach_exact` says exactly
  what the code does instead.
-/
import Fan2go.Proofs.FanLimits
import Fan2go.Proofs.F64Ops
namespace Fan2go
open F64

structure CurveData (d : List (Int × F64)) : Prop where
  ne : d ≠ []
  sorted : KeysSorted d
  le255 : ∀ p ∈ d, p.1 ≤ 255

/-- a freshly constructed hwmon fan (`fans.NewFan`). -/
abbrev freshHwmon (ns : Bool) (cfgMin cfgStart cfgMax : Option Int) : FanSt :=
  FanSt.new .hwmon ns cfgMin cfgStart cfgMax

/-- `specStart` is the lowest key with non-zero whole RPM … -/
theorem C13_specStart_lowest (indef : Int) {d : List (Int × F64)} (hs : KeysSorted d)
    (h : ∃ p ∈ d, 0 < rpmOf indef p) :
    ∃ p ∈ d, p.1 = specStart indef d ∧ 0 < rpmOf indef p ∧
      ∀ q ∈ d, 0 < rpmOf indef q → specStart indef d ≤ q.1 :=
  specStart_lowest indef hs h

/-- … and 255 when no measured point rotates. -/
theorem C13_specStart_none (indef : Int) (d : List (Int × F64)) (h : ∀ p ∈ d, rpmOf indef p ≤ 0) :
    specStart indef d = 255 := specStart_none indef d h

/-- `specMax` is a key at which the highest whole RPM is reached, and the lowest such key … -/
theorem C13_specMax_lowest (indef : Int) {d : List (Int × F64)} (hs : KeysSorted d)
    (h : ∃ p ∈ d, 0 < rpmOf indef p) :
    ∃ p ∈ d, p.1 = specMax indef d ∧ (∀ q ∈ d, rpmOf indef q ≤ rpmOf indef p) ∧
      ∀ q ∈ d, (∀ r ∈ d, rpmOf indef r ≤ rpmOf indef q) → specMax indef d ≤ q.1 :=
  specMax_lowest indef hs h

/-- … and 255 when no measured point rotates. -/
theorem C13_specMax_none (indef : Int) (d : List (Int × F64)) (h : ∀ p ∈ d, rpmOf indef p ≤ 0) :
    specMax indef d = 255 := specMax_none indef d h

theorem C13_attach_ok (indef : Int) (ns : Bool) (cfgMin cfgStart cfgMax : Option Int)
    {d : List (Int × F64)} (hd : CurveData d) :
    ((freshHwmon ns cfgMin cfgStart cfgMax).attach indef (some d)).2 = .ok () := by
  rw [attach_new indef ns cfgMin cfgStart cfgMax hd.ne hd.sorted hd.le255]

/-- start PWM: the configured value if there is one, else the lowest measured PWM with non-zero RPM
    (255 if there is none). -/
theorem C13_start (indef : Int) (ns : Bool) (cfgMin cfgStart cfgMax : Option Int)
    {d : List (Int × F64)} (hd : CurveData d) :
    ((freshHwmon ns cfgMin cfgStart cfgMax).attach indef (some d)).1.getStart
      = cfgStart.getD (specStart indef d) := by
  rw [attach_new indef ns cfgMin cfgStart cfgMax hd.ne hd.sorted hd.le255]; rfl

/-- max PWM: the configured value if there is one, else the lowest measured PWM at which the highest
    whole RPM is reached (255 if nothing rotates). -/
theorem C13_max (indef : Int) (ns : Bool) (cfgMin cfgStart cfgMax : Option Int)
    {d : List (Int × F64)} (hd : CurveData d) :
    ((freshHwmon ns cfgMin cfgStart cfgMax).attach indef (some d)).1.getMax
      = cfgMax.getD (specMax indef d) := by
  rw [attach_new indef ns cfgMin cfgStart cfgMax hd.ne hd.sorted hd.le255]; rfl

/-- min PWM after the attachment: 0 without `neverStop`; with it, the configured minimum, else the
    start PWM the attachment computed (a configured start PWM below 255, else the measured one –
    note that a configured `startPwm: 255` does not count as configured here). -/
theorem C13_min (indef : Int) (ns : Bool) (cfgMin cfgStart cfgMax : Option Int)
    {d : List (Int × F64)} (hd : CurveData d) :
    ((freshHwmon ns cfgMin cfgStart cfgMax).attach indef (some d)).1.getMin
      = if ns then
          cfgMin.getD (if cfgStart.getD 255 < 255 then cfgStart.getD 255 else specStart indef d)
        else 0 := by
  rw [attach_new indef ns cfgMin cfgStart cfgMax hd.ne hd.sorted hd.le255]; cases ns <;> rfl

/-- non-vacuity: a plateau curve, nothing configured: start = 20 (first rotation), max = 60 (first
    of the plateau), for every `indef`. -/
example (indef : Int) :
    let d : List (Int × F64) := [(10, fin 0), (20, fin 300), (60, fin 900), (80, fin 900)]
    CurveData d ∧ specStart indef d = 20 ∧ specMax indef d = 60 := by
  have t0 : toInt indef (fin 0) = 0 := toInt_fin_zero indef
  have t3 : toInt indef (fin 300) = 300 := by simpa using toInt_fin_nat indef 300
  have t9 : toInt indef (fin 900) = 900 := by simpa using toInt_fin_nat indef 900
  refine ⟨⟨by simp, by simp [KeysSorted], by simp⟩, ?_, ?_⟩
  · simp [specStart, rpmOf, t0, t3]
  · simp [specMax, specMaxRpm, rpmOf, t0, t3, t9]

/-- empty data and a nil pointer are refused and leave the fan exactly as it was (any hwmon state). -/
theorem C13_refuses_empty (indef : Int) (f : FanSt) (hk : f.kind = .hwmon) :
    f.attach indef (some []) = (f, .err "invalid") ∧ f.attach indef none = (f, .err "invalid") :=
  attach_hwmon_empty indef f hk

example (indef : Int) : ((freshHwmon true none none none).attach indef (some [])).2 = .err "invalid" :=
  by rw [(C13_refuses_empty indef _ rfl).1]

/-- For ANY sequence of attachments (valid, empty or nil) and non-forced setter calls on a fan
    constructed from a configuration: a configured start / max PWM is the effective one, and with
    `neverStop` so is a configured min PWM. -/
theorem C13_config_wins (indef : Int) (ns : Bool) (cfgMin cfgStart cfgMax : Option Int)
    (ops : List LimOp) :
    let f := runLimOps indef (freshHwmon ns cfgMin cfgStart cfgMax) ops
    (∀ v, cfgStart = some v → f.getStart = v) ∧ (∀ v, cfgMax = some v → f.getMax = v) ∧
    (∀ v, cfgMin = some v → ns = true → f.getMin = v) := by
  intro f
  have h : CfgKept (freshHwmon ns cfgMin cfgStart cfgMax) f := (cfgKept_new ..).run indef ops
  have hk : f.kind = .hwmon := h.kind
  have hn : f.neverStop = ns := h.ns
  refine ⟨fun v hv => ?_, fun v hv => ?_, fun v hv hns => ?_⟩
  · have := h.wstart v hv; simp [FanSt.getStart, hk, this]
  · have := h.wmax v hv; simp [FanSt.getMax, hk, this]
  · have := h.wmin v hv; simp [FanSt.getMin, hk, this, hn, hns]

example (indef : Int) :
    (runLimOps indef (freshHwmon true (some 30) (some 40) (some 200))
      [.attach (some [(10, fin 0), (20, fin 300)]), .setMin 1, .setStart 2, .setMax 3]).getMax = 200 :=
  (C13_config_wins indef true (some 30) (some 40) (some 200) _).2.1 200 rfl

/-- A fan without `neverStop` has minimum 0 – in every state of every kind. -/
theorem C13_min_zero (f : FanSt) (h : f.neverStop = false) : f.getMin = 0 := by
  unfold FanSt.getMin; cases f.kind <;> simp [h]

/-- … in particular after any operation sequence. -/
theorem C13_min_zero_run (indef : Int) (kind : FanKind) (cfgMin cfgStart cfgMax : Option Int)
    (ops : List LimOp) :
    (runLimOps indef (FanSt.new kind false cfgMin cfgStart cfgMax) ops).getMin = 0 :=
  C13_min_zero _ ((cfgKept_new ..).run indef ops).ns

/-- File and cmd fans: constant limits 0 / 1 / 255 in every state; attaching data is ignored. -/
theorem C13_file_cmd_constants (indef : Int) (f : FanSt) (hk : f.kind ≠ .hwmon)
    (d : Option (List (Int × F64))) :
    f.getMin = 0 ∧ f.getStart = 1 ∧ f.getMax = 255 ∧ f.attach indef d = (f, .ok ()) := by
  refine ⟨?_, ?_, ?_, attach_other indef f hk d⟩
  · unfold FanSt.getMin; cases h : f.kind <;> simp_all
  · unfold FanSt.getStart; cases h : f.kind <;> simp_all
  · unfold FanSt.getMax; cases h : f.kind <;> simp_all

/-- What one attachment does to the start / max PWM of a hwmon fan in ANY state: an unconfigured max
    follows the new data, but an unconfigured start only does if the previous start was 255. -/
theorem C13_attach_any_state (indef : Int) (f : FanSt) (hk : f.kind = .hwmon)
    {d : List (Int × F64)} (hd : CurveData d) :
    (f.attach indef (some d)).1.getStart =
      (if f.cfgStart.isNone then (if f.getStart < 255 then f.getStart else specStart indef d)
       else f.getStart) ∧
    (f.attach indef (some d)).1.getMax =
      (if f.cfgMax.isNone then specMax indef d else f.getMax) := by
  rw [attach_curve indef f hk hd.ne hd.sorted hd.le255]
  simp only [FanSt.getStart, FanSt.getMax, hk]
  cases f.cfgStart <;> cases f.cfgMax <;> simp

def reattached (indef : Int) (f : FanSt) (d1 d2 : List (Int × F64)) : FanSt :=
  ((f.attach indef (some d1)).1.attach indef (some d2)).1

/-- The property's claim for repeated attachment: unconfigured limits follow the LAST data. -/
def C13_reattach_statement : Prop :=
  ∀ (indef : Int) (ns : Bool) (cfgMin : Option Int) (d1 d2 : List (Int × F64)),
    CurveData d1 → CurveData d2 →
    (reattached indef (freshHwmon ns cfgMin none none) d1 d2).getStart = specStart indef d2 ∧
    (reattached indef (freshHwmon ns cfgMin none none) d1 d2).getMax = specMax indef d2

/-- exactly what the code does on re-attachment (no configured start / max). -/
theorem C13_reattach_exact (indef : Int) (ns : Bool) (cfgMin : Option Int)
    {d1 d2 : List (Int × F64)} (h1 : CurveData d1) (h2 : CurveData d2) :
    (reattached indef (freshHwmon ns cfgMin none none) d1 d2).getStart =
      (if specStart indef d1 < 255 then specStart indef d1 else specStart indef d2) ∧
    (reattached indef (freshHwmon ns cfgMin none none) d1 d2).getMax = specMax indef d2 := by
  unfold reattached
  rw [attach_new indef ns cfgMin none none h1.ne h1.sorted h1.le255,
    attach_curve indef _ rfl h2.ne h2.sorted h2.le255]
  exact ⟨rfl, rfl⟩

/-- the max-PWM half of the claim is true … -/
theorem C13_reattach_max (indef : Int) (ns : Bool) (cfgMin : Option Int)
    {d1 d2 : List (Int × F64)} (h1 : CurveData d1) (h2 : CurveData d2) :
    (reattached indef (freshHwmon ns cfgMin none none) d1 d2).getMax = specMax indef d2 :=
  (C13_reattach_exact indef ns cfgMin h1 h2).2

/-- … and the start-PWM half holds when the first attachment measured no rotation below 255. -/
theorem C13_reattach_partial (indef : Int) (ns : Bool) (cfgMin : Option Int)
    {d1 d2 : List (Int × F64)} (h1 : CurveData d1) (h2 : CurveData d2)
    (hno : specStart indef d1 = 255) :
    (reattached indef (freshHwmon ns cfgMin none none) d1 d2).getStart = specStart indef d2 := by
  rw [(C13_reattach_exact indef ns cfgMin h1 h2).1, hno]; simp

/-- with a configured start PWM re-attachment is harmless (instance of `C13_config_wins`). -/
theorem C13_reattach_configured (indef : Int) (ns : Bool) (cfgMin cfgMax : Option Int) (v : Int)
    (d1 d2 : List (Int × F64)) :
    (reattached indef (freshHwmon ns cfgMin (some v) cfgMax) d1 d2).getStart = v :=
  (C13_config_wins indef ns cfgMin (some v) cfgMax [.attach (some d1), .attach (some d2)]).1 v rfl

def c13_d1 : List (Int × F64) := [(10, fin 0), (20, fin 500)]
def c13_d2 : List (Int × F64) := [(10, fin 0), (20, fin 0), (40, fin 500)]

/-- The start PWM stays 20 although the fan now needs 40 to start (for every `indef`). -/
theorem C13_reattach_witness (indef : Int) :
    CurveData c13_d1 ∧ CurveData c13_d2 ∧ specStart indef c13_d2 = 40 ∧
    (reattached indef (freshHwmon false none none none) c13_d1 c13_d2).getStart = 20 := by
  have t0 : toInt indef (fin 0) = 0 := toInt_fin_zero indef
  have t5 : toInt indef (fin 500) = 500 := by simpa using toInt_fin_nat indef 500
  have c1 : CurveData c13_d1 := ⟨by simp [c13_d1], by simp [KeysSorted, c13_d1], by simp [c13_d1]⟩
  have c2 : CurveData c13_d2 := ⟨by simp [c13_d2], by simp [KeysSorted, c13_d2], by simp [c13_d2]⟩
  have s1 : specStart indef c13_d1 = 20 := by simp [specStart, rpmOf, c13_d1, t0, t5]
  have s2 : specStart indef c13_d2 = 40 := by simp [specStart, rpmOf, c13_d2, t0, t5]
  refine ⟨c1, c2, s2, ?_⟩
  rw [(C13_reattach_exact indef false none c1 c2).1, s1]; simp

theorem C13_reattach_refuted : ¬ C13_reattach_statement := by
  intro h
  obtain ⟨c1, c2, s2, w⟩ := C13_reattach_witness 0
  have := (h 0 false none c13_d1 c13_d2 c1 c2).1
  rw [w, s2] at this
  omega

end Fan2go

#print axioms Fan2go.C13_specStart_lowest
#print axioms Fan2go.C13_specStart_none
#print axioms Fan2go.C13_specMax_lowest
#print axioms Fan2go.C13_specMax_none
#print axioms Fan2go.C13_attach_ok
#print axioms Fan2go.C13_start
#print axioms Fan2go.C13_max
#print axioms Fan2go.C13_min
#print axioms Fan2go.C13_refuses_empty
#print axioms Fan2go.C13_config_wins
#print axioms Fan2go.C13_min_zero
#print axioms Fan2go.C13_min_zero_run
#print axioms Fan2go.C13_file_cmd_constants
#print axioms Fan2go.C13_attach_any_state
#print axioms Fan2go.C13_reattach_exact
#print axioms Fan2go.C13_reattach_max
#print axioms Fan2go.C13_reattach_partial
#print axioms Fan2go.C13_reattach_configured
#print axioms Fan2go.C13_reattach_witness
#print axioms Fan2go.C13_reattach_refuted
