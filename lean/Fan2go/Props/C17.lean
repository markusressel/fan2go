/-
  C17 — hwmon entries bind to the device the user named, or fail cleanly.

  Model: `Fan2go/Model/Hwmon.lean` (tied to internal/hwmon/hwmon.go, the hwmon branch of
  `initializeSensors` and the entry loops of `initializeSensors` / `initializeFans` in
  internal/backend.go by the "hw" correspondence stream).

  Every theorem holds for EVERY platform matcher `m : String → String → Bool`
  (`m pattern platform` = `regexp.MatchString("(?i)"+pattern, platform)`, trusted).

  Fans: the property holds (C17_fan_*).
  Sensors: the property holds (C17_sensor_*) since /repo commit 218c45c. Before it `initializeSensors`
  evaluated `c.Sensors[config.HwMon.Index].Input` without a presence test, so a sensor entry whose
  index was missing on a matching chip crashed start-up with a nil-pointer dereference. The code
  now skips a matching chip that lacks the index and fails with an error when no matching chip has
  it. The two inputs that crashed are examples below (`witnessChip`: one chip `k10temp-pci-00c3`
  with a single temperature input, entry `platform: k10temp, index: 2`, evaluates to `.err`;
  `skipRaws`: pattern `nct6775` matching a chip with the index and a fan-only chip, evaluates to `.ok`).
-/
import Fan2go.Proofs.Hwmon
namespace Fan2go
namespace Hwmon

/-- meaning of the selector test `fanOk`: a given (positive) index must equal the fan's
    enumeration index, a given (positive) rpm channel must equal the fan's channel -/
theorem C17_fanOk_iff (sel : FanSel) (f : FanDev) :
    fanOk sel f = true ↔
      (sel.index > 0 → f.index = sel.index) ∧ (sel.rpmChannel > 0 → f.rpmChannel = sel.rpmChannel) :=
  fanOk_iff sel f

/-- the `HwMonFanConfig` a correct binding to fan `(index, rpmCh)` in directory `path` yields -/
def expectedBinding (path : String) (index rpmCh pwmCh : Int) : FanBinding :=
  { index := index, rpmChannel := rpmCh, pwmChannel := pwmCh, sysfsPath := path,
    rpmInputPath := path ++ "/" ++ ("fan" ++ toString rpmCh ++ "_input"),
    pwmPath := path ++ "/" ++ ("pwm" ++ toString pwmCh),
    pwmEnablePath := path ++ "/" ++ ("pwm" ++ toString pwmCh ++ "_enable") }

theorem mkBinding_eq_expected (sel : FanSel) (f : FanDev) :
    mkBinding sel f =
      expectedBinding f.sysfsPath f.index f.rpmChannel
        (if sel.pwmChannel = 0 then f.pwmChannel else sel.pwmChannel) := rfl

/-- everything `GetChips` returns is well formed: each fan lives in its chip's directory and its
    pwm channel is its rpm channel -/
theorem C17_getChips_wf (raws : List RawChip) : ∀ c ∈ getChips raws, c.WF := fun c h => by
  obtain ⟨rc, -, -, rfl⟩ := mem_getChips.1 h
  exact mkChip_wf rc

/-- **C17 (fans, paths).** Exactly one chip matches the platform pattern and exactly one of its
    fans passes the selector: the entry is bound to that fan — RPM input from the fan's rpm
    channel, PWM and enable files from the pwm channel, which is the explicit one or else the
    fan's (= rpm) channel — all inside that chip's directory. -/
theorem C17_fan_paths (m : String → String → Bool) (chips : List Chip) (sel : FanSel)
    (c : Chip) (f : FanDev) (hwf : c.WF)
    (hc : c ∈ chips) (hm : m sel.platform c.platform = true)
    (hchip : ∀ c' ∈ chips, m sel.platform c'.platform = true → c' = c)
    (hf : f ∈ c.fans) (hok : fanOk sel f = true)
    (hdev : ∀ f' ∈ c.fans, fanOk sel f' = true → f' = f) :
    bindFan m chips sel =
      .ok (expectedBinding c.path f.index f.rpmChannel
            (if sel.pwmChannel = 0 then f.rpmChannel else sel.pwmChannel)) := by
  obtain ⟨hp, hpw⟩ := hwf f hf
  rw [bindFan_eq, findSome?_pick_of_unique hc hm fun c' hc' hm' _ => hchip c' hc' hm',
    bindFanDevs_unique hf hok hdev, mkBinding_eq_expected, hp, hpw]
  rfl

/-- **C17 (fans, by index).** An `index: i+1` entry on the (only) matching chip is bound to the
    `i`-th fan of that chip in libsensors feature order (features without a `fanN_input`
    sub-feature or whose name does not scan as `fan%d` do not count). -/
theorem C17_fan_by_index (m : String → String → Bool) (raws : List RawChip) (rc : RawChip)
    (sel : FanSel) (i : Nat) (ch : Int)
    (hrc : rc ∈ raws) (hm : m sel.platform (platformOf rc) = true)
    (huniq : ∀ rc' ∈ raws, m sel.platform (platformOf rc') = true → rc' = rc)
    (hidx : sel.index = (i : Int) + 1) (hrpm : sel.rpmChannel = 0)
    (hch : (fanChannels rc.features)[i]? = some ch) :
    bindFan m (getChips raws) sel =
      .ok (expectedBinding rc.path ((i : Int) + 1) ch (if sel.pwmChannel = 0 then ch else sel.pwmChannel)) := by
  rw [bindFan_getChips hrc hm huniq (List.ne_nil_of_mem (List.mem_of_getElem? hch)),
    bindFanDevs_mkFans_index sel rc.path 0 i _ ch (by simpa using hidx) (by omega) hch, hidx]
  rfl

/-- an index beyond the number of fans of the (only) matching chip: clean error -/
theorem C17_fan_index_out_of_range (m : String → String → Bool) (raws : List RawChip) (rc : RawChip)
    (sel : FanSel) (i : Nat)
    (huniq : ∀ rc' ∈ raws, m sel.platform (platformOf rc') = true → rc' = rc)
    (hidx : sel.index = (i : Int) + 1) (hrpm : sel.rpmChannel = 0)
    (hlen : (fanChannels rc.features).length ≤ i) :
    ∃ e, bindFan m (getChips raws) sel = .err e := by
  have _ := hrpm -- the index test alone refuses every fan
  rw [bindFan_err_iff]
  intro c hc hm f hf
  rw [eq_mkChip_of_unique huniq c hc hm, mkChip_fans, getFans_eq] at hf
  obtain ⟨j, ch, hj, rfl⟩ := mem_mkFans.1 hf
  -- its index `j + 1` is at most the number of fans, the index asked for is beyond it
  have hlt := (List.getElem?_eq_some_iff.1 hj).1
  exact fanOk_of_index_ne (by omega) (by simp only; omega)

/-- **C17 (fans, by channel).** An `rpmChannel: n` entry on the (only) matching chip is bound to
    the (first) fan feature named `fan<n>` of that chip, whatever its position. -/
theorem C17_fan_by_channel (m : String → String → Bool) (raws : List RawChip) (rc : RawChip)
    (sel : FanSel) (i : Nat)
    (hrc : rc ∈ raws) (hm : m sel.platform (platformOf rc) = true)
    (huniq : ∀ rc' ∈ raws, m sel.platform (platformOf rc') = true → rc' = rc)
    (hidx : sel.index = 0) (hrpm : sel.rpmChannel > 0)
    (hch : (fanChannels rc.features)[i]? = some sel.rpmChannel)
    (hfirst : ∀ j, j < i → (fanChannels rc.features)[j]? ≠ some sel.rpmChannel) :
    bindFan m (getChips raws) sel =
      .ok (expectedBinding rc.path ((i : Int) + 1) sel.rpmChannel
            (if sel.pwmChannel = 0 then sel.rpmChannel else sel.pwmChannel)) := by
  rw [bindFan_getChips hrc hm huniq (List.ne_nil_of_mem (List.mem_of_getElem? hch)),
    bindFanDevs_mkFans_channel sel rc.path 0 i _ (by omega) hrpm hch hfirst, Int.natCast_zero, Int.zero_add]
  rfl

/-- **C17 (fans, enumeration order).** When at most one chip matches the platform pattern, the
    result of the binding does not depend on the order in which the chips are enumerated. -/
theorem C17_fan_perm_invariant (m : String → String → Bool) (chips chips' : List Chip) (sel : FanSel)
    (hperm : chips.Perm chips')
    (hone : (chips.filter fun c => m sel.platform c.platform).length ≤ 1) :
    bindFan m chips sel = bindFan m chips' sel :=
  bindFan_congr (fun _ => hperm.mem_iff) fun a ha b hb hma _ hmb _ =>
    unique_of_length_filter_le_one hone a ha b hb hma hmb

/-- **C17 (fans, clean failure).** The fan binding never panics; when no fan of a matching chip
    passes the selector it returns an error; and whatever it binds is a fan of a matching chip
    that passes the selector (never a different device). -/
theorem C17_fan_fails_clean (m : String → String → Bool) (chips : List Chip) (sel : FanSel) :
    (∀ s, bindFan m chips sel ≠ .panic s) ∧
    ((∀ c ∈ chips, m sel.platform c.platform = true → ∀ f ∈ c.fans, fanOk sel f = false) →
        ∃ e, bindFan m chips sel = .err e) ∧
    (∀ b, bindFan m chips sel = .ok b →
        ∃ c ∈ chips, m sel.platform c.platform = true ∧
          ∃ f ∈ c.fans, fanOk sel f = true ∧ b = mkBinding sel f) :=
  ⟨bindFan_ne_panic m chips sel, (bindFan_err_iff m chips sel).2, fun _ h => bindFan_sound h⟩

/-- **C17 (sensors, clean failure).** The sensor binding never panics; when no matching chip has
    the index (unknown platform or missing index) it returns an error; and whatever it binds is
    the input path of a matching chip that has the index (never a different device). -/
theorem C17_sensor_fails_clean (m : String → String → Bool) (chips : List Chip) (sel : SensorSel) :
    (∀ s, bindSensor m chips sel ≠ .panic s) ∧
    ((∀ c ∈ chips, m sel.platform c.platform = true → lookupTemp c.temps sel.index = none) →
        ∃ e, bindSensor m chips sel = .err e) ∧
    (∀ p, bindSensor m chips sel = .ok p →
        ∃ c ∈ chips, m sel.platform c.platform = true ∧ lookupTemp c.temps sel.index = some p) :=
  ⟨bindSensor_ne_panic m chips sel, (bindSensor_err_iff m chips sel).2, fun _ h => bindSensor_sound h⟩

/-- **C17 (sensors, chips without the index are skipped).** If exactly one of the matching chips
    has the index, the sensor reads that chip's input, wherever the other matching chips (e.g.
    fan-only chips of the same family) are enumerated. -/
theorem C17_sensor_skips_chip_without_index (m : String → String → Bool) (chips : List Chip)
    (sel : SensorSel) (c : Chip) (p : String)
    (hc : c ∈ chips) (hm : m sel.platform c.platform = true)
    (hp : lookupTemp c.temps sel.index = some p)
    (huniq : ∀ c' ∈ chips, m sel.platform c'.platform = true →
      (lookupTemp c'.temps sel.index).isSome = true → c' = c) :
    bindSensor m chips sel = .ok p := by
  rw [bindSensor_eq, findSome?_pick_of_unique (List.mem_reverse.2 hc) hm
    fun c' hc' => huniq c' (List.mem_reverse.1 hc'), hp]
  rfl

/-- **C17 (sensors, binding).**
    (1) exactly one chip matches and has the index: the sensor reads that chip's input path;
    (2) some matching chip has the index: `.ok` with the input of a matching chip that has it;
    (3) no chip matches: an error. -/
theorem C17_sensor_partial (m : String → String → Bool) (chips : List Chip) (sel : SensorSel) :
    (∀ c p, c ∈ chips → m sel.platform c.platform = true →
        (∀ c' ∈ chips, m sel.platform c'.platform = true → c' = c) →
        lookupTemp c.temps sel.index = some p → bindSensor m chips sel = .ok p) ∧
    ((∃ c ∈ chips, m sel.platform c.platform = true ∧ (lookupTemp c.temps sel.index).isSome = true) →
        ∃ c ∈ chips, m sel.platform c.platform = true ∧
          ∃ p, lookupTemp c.temps sel.index = some p ∧ bindSensor m chips sel = .ok p) ∧
    ((∀ c ∈ chips, m sel.platform c.platform = false) → ∃ e, bindSensor m chips sel = .err e) := by
  refine ⟨fun c p hc hm hu hp => C17_sensor_skips_chip_without_index m chips sel c p hc hm hp
      fun c' hc' hm' _ => hu c' hc' hm', fun ⟨c, hc, hm, hs⟩ => ?_,
    fun h => (bindSensor_err_iff m chips sel).2 fun c hc hm => by rw [h c hc] at hm; cases hm⟩
  cases hb : bindSensor m chips sel with
  | ok p => obtain ⟨c', hc', hm', hp'⟩ := bindSensor_sound hb; exact ⟨c', hc', hm', p, hp', rfl⟩
  | err e => rw [(bindSensor_err_iff m chips sel).1 ⟨e, hb⟩ c hc hm] at hs; cases hs
  | panic s => exact absurd hb (bindSensor_ne_panic m chips sel s)

/-- the index of a sensor entry is the position among the chip's temperature features that have
    a `tempN_input` sub-feature, in libsensors feature order -/
theorem C17_sensor_by_index (m : String → String → Bool) (raws : List RawChip) (rc : RawChip)
    (sel : SensorSel) (i : Nat) (name : String)
    (hrc : rc ∈ raws) (hm : m sel.platform (platformOf rc) = true)
    (huniq : ∀ rc' ∈ raws, m sel.platform (platformOf rc') = true → rc' = rc)
    (hidx : sel.index = (i : Int) + 1)
    (hname : (tempInputs rc.features)[i]? = some name) :
    bindSensor m (getChips raws) sel = .ok (rc.path ++ "/" ++ name) := by
  rw [bindSensor_getChips hrc hm huniq (List.ne_nil_of_mem (List.mem_of_getElem? hname)), hidx,
    lookupTemp_getTemps, hname]
  rfl

/-- **C17 (sensors, enumeration order).** With at most one matching chip the result does not
    depend on the enumeration order. -/
theorem C17_sensor_perm_invariant (m : String → String → Bool) (chips chips' : List Chip) (sel : SensorSel)
    (hperm : chips.Perm chips')
    (hone : (chips.filter fun c => m sel.platform c.platform).length ≤ 1) :
    bindSensor m chips sel = bindSensor m chips' sel :=
  bindSensor_congr (fun _ => hperm.mem_iff) fun a ha b hb hma _ hmb _ =>
    unique_of_length_filter_le_one hone a ha b hb hma hmb

/-- ... and it suffices that at most one matching chip HAS the index -/
theorem C17_sensor_perm_invariant' (m : String → String → Bool) (chips chips' : List Chip) (sel : SensorSel)
    (hperm : chips.Perm chips')
    (hone : (chips.filter (sensorHit m sel)).length ≤ 1) :
    bindSensor m chips sel = bindSensor m chips' sel :=
  bindSensor_congr (fun _ => hperm.mem_iff) fun a ha b hb hma hsa hmb hsb =>
    unique_of_length_filter_le_one hone a ha b hb (sensorHit_iff.2 ⟨hma, hsa⟩) (sensorHit_iff.2 ⟨hmb, hsb⟩)

def exRaws : List RawChip :=
  [ { pfx := "nct6775", busType := 1, busNr := 0, addr := 0x290, path := "/sys/class/hwmon/hwmon2",
      features := [ ⟨.other, "in0", true, "in0_input"⟩, ⟨.fan, "fan2", true, "fan2_input"⟩,
                    ⟨.fan, "fanX", true, "fanX_input"⟩, ⟨.fan, "fan4", false, ""⟩,
                    ⟨.temp, "temp1", true, "temp1_input"⟩, ⟨.fan, "fan5", true, "fan5_input"⟩,
                    ⟨.temp, "temp2", false, ""⟩, ⟨.temp, "temp3", true, "temp3_input"⟩ ] },
    { pfx := "k10temp", busType := 2, busNr := 0, addr := 0xc3, path := "/sys/class/hwmon/hwmon1",
      features := [ ⟨.temp, "temp1", true, "temp1_input"⟩ ] },
    { pfx := "acpi-empty", busType := 5, busNr := 0, addr := 0, path := "/sys/class/hwmon/hwmon0",
      features := [ ⟨.other, "in0", true, "in0_input"⟩ ] } ]

/-- `getChips exRaws`, evaluated once for the examples below -/
theorem getChips_exRaws : getChips exRaws =
    [ { name := "nct6775-isa-0290", platform := "nct6775-isa-0290", path := "/sys/class/hwmon/hwmon2",
        fans := [⟨1, 2, 2, "/sys/class/hwmon/hwmon2"⟩, ⟨2, 5, 5, "/sys/class/hwmon/hwmon2"⟩],
        temps := [(1, "/sys/class/hwmon/hwmon2/temp1_input"), (2, "/sys/class/hwmon/hwmon2/temp3_input")] },
      { name := "k10temp-pci-00c3", platform := "k10temp-pci-00c3", path := "/sys/class/hwmon/hwmon1",
        fans := [], temps := [(1, "/sys/class/hwmon/hwmon1/temp1_input")] } ] := by decide +kernel

/-- `GetChips` over the example: the empty chip is dropped, `fanX` and the input-less features
    do not consume an index -/
example : getChips exRaws =
    [ { name := "nct6775-isa-0290", platform := "nct6775-isa-0290", path := "/sys/class/hwmon/hwmon2",
        fans := [⟨1, 2, 2, "/sys/class/hwmon/hwmon2"⟩, ⟨2, 5, 5, "/sys/class/hwmon/hwmon2"⟩],
        temps := [(1, "/sys/class/hwmon/hwmon2/temp1_input"), (2, "/sys/class/hwmon/hwmon2/temp3_input")] },
      { name := "k10temp-pci-00c3", platform := "k10temp-pci-00c3", path := "/sys/class/hwmon/hwmon1",
        fans := [], temps := [(1, "/sys/class/hwmon/hwmon1/temp1_input")] } ] := getChips_exRaws

/-- by channel, defaulted pwm channel -/
example : bindFan ciContains (getChips exRaws) { platform := "NCT6775", rpmChannel := 5 } =
    .ok (expectedBinding "/sys/class/hwmon/hwmon2" 2 5 5) := by rw [getChips_exRaws]; decide +kernel

/-- by index, explicit pwm channel -/
example : bindFan ciContains (getChips exRaws) { platform := "nct6775-isa-0290", index := 1, pwmChannel := 3 } =
    .ok { index := 1, rpmChannel := 2, pwmChannel := 3, sysfsPath := "/sys/class/hwmon/hwmon2",
          rpmInputPath := "/sys/class/hwmon/hwmon2/fan2_input",
          pwmPath := "/sys/class/hwmon/hwmon2/pwm3",
          pwmEnablePath := "/sys/class/hwmon/hwmon2/pwm3_enable" } := by rw [getChips_exRaws]; decide +kernel

/-- the hypotheses of `C17_fan_by_index` are satisfiable (instance of the theorem) -/
example : bindFan ciContains (getChips exRaws) { platform := "nct6775", index := 2 } =
    .ok (expectedBinding "/sys/class/hwmon/hwmon2" 2 5 5) := by
  have h := C17_fan_by_index ciContains exRaws exRaws[0] { platform := "nct6775", index := 2 } 1 5
    List.mem_cons_self (by decide +kernel) (by decide +kernel) rfl rfl rfl
  exact h

/-- unknown platform / missing index / missing channel: clean errors -/
example : bindFan ciContains (getChips exRaws) { platform := "it8620", index := 1 } = .err "no-hwmon-fan-matched" := by rw [getChips_exRaws]; decide +kernel
example : bindFan ciContains (getChips exRaws) { platform := "nct6775", index := 3 } = .err "no-hwmon-fan-matched" := by rw [getChips_exRaws]; decide +kernel
example : bindFan ciContains (getChips exRaws) { platform := "nct6775", rpmChannel := 4 } = .err "no-hwmon-fan-matched" := by rw [getChips_exRaws]; decide +kernel

/-- enumeration order is irrelevant for an unambiguous pattern ... -/
example : bindFan ciContains (getChips exRaws.reverse) { platform := "nct6775", rpmChannel := 5 } =
    bindFan ciContains (getChips exRaws) { platform := "nct6775", rpmChannel := 5 } := by rw [getChips_reverse, getChips_exRaws]; decide +kernel

/-- ... but not for an ambiguous one (two chips match `"-"`, sensors take the LAST that has the index): the
    hypothesis of `C17_sensor_perm_invariant` cannot be dropped. Fans take the FIRST matching chip with a
    fan that passes; `exRaws` has fans on one chip only and cannot show it for `C17_fan_perm_invariant`. -/
example : bindSensor ciContains (getChips exRaws) { platform := "-", index := 1 } = .ok "/sys/class/hwmon/hwmon1/temp1_input" ∧
    bindSensor ciContains (getChips exRaws.reverse) { platform := "-", index := 1 } = .ok "/sys/class/hwmon/hwmon2/temp1_input" := by
  rw [getChips_reverse, getChips_exRaws]; decide +kernel

/-- sensors: existing index, unknown platform, missing index (clean errors) -/
example : bindSensor ciContains (getChips exRaws) { platform := "nct6775", index := 2 } = .ok "/sys/class/hwmon/hwmon2/temp3_input" := by rw [getChips_exRaws]; decide +kernel
example : bindSensor ciContains (getChips exRaws) { platform := "it8620", index := 1 } = .err "no-hwmon-device" := by rw [getChips_exRaws]; decide +kernel
example : bindSensor ciContains (getChips exRaws) { platform := "k10temp", index := 2 } = .err "no-hwmon-device" := by rw [getChips_exRaws]; decide +kernel
example : bindSensor ciContains (getChips exRaws) { platform := "nct6775", index := 0 } = .err "no-hwmon-device" := by rw [getChips_exRaws]; decide +kernel
/-- pattern `"-"` matches both chips, only `nct6775` has a second temperature input -/
example : bindSensor ciContains (getChips exRaws) { platform := "-", index := 2 } = .ok "/sys/class/hwmon/hwmon2/temp3_input" := by rw [getChips_exRaws]; decide +kernel

/-- the input on which the code before 218c45c crashed (see the header): one chip with one temperature
    input, a sensor entry asking for `index: 2` -/
def witnessChip : Chip :=
  { platform := "k10temp-pci-00c3"
    path := "/sys/class/hwmon/hwmon1"
    fans := []
    temps := [(1, "/sys/class/hwmon/hwmon1/temp1_input")] }

example : bindSensor ciContains [witnessChip] { platform := "k10temp", index := 2 } = .err "no-hwmon-device" := by
  decide +kernel

/-- the second such input: the pattern matches a chip that has the index and a fan-only chip of the
    same family -/
def skipRaws : List RawChip :=
  [ { pfx := "nct6775", busType := 1, busNr := 0, addr := 0x290, path := "/sys/class/hwmon/hwmon2",
      features := [ ⟨.fan, "fan1", true, "fan1_input"⟩, ⟨.temp, "temp1", true, "temp1_input"⟩,
                    ⟨.temp, "temp2", true, "temp2_input"⟩ ] },
    { pfx := "nct6775", busType := 1, busNr := 0, addr := 0x2a0, path := "/sys/class/hwmon/hwmon3",
      features := [ ⟨.fan, "fan1", true, "fan1_input"⟩ ] } ]

theorem getChips_skipRaws : getChips skipRaws =
    [ { name := "nct6775-isa-0290", platform := "nct6775-isa-0290", path := "/sys/class/hwmon/hwmon2",
        fans := [⟨1, 1, 1, "/sys/class/hwmon/hwmon2"⟩],
        temps := [(1, "/sys/class/hwmon/hwmon2/temp1_input"), (2, "/sys/class/hwmon/hwmon2/temp2_input")] },
      { name := "nct6775-isa-02a0", platform := "nct6775-isa-02a0", path := "/sys/class/hwmon/hwmon3",
        fans := [⟨1, 1, 1, "/sys/class/hwmon/hwmon3"⟩], temps := [] } ] := by decide +kernel

example : bindSensor ciContains (getChips skipRaws) { platform := "nct6775", index := 1 } =
    .ok "/sys/class/hwmon/hwmon2/temp1_input" := by rw [getChips_skipRaws]; decide +kernel
example : bindSensor ciContains (getChips skipRaws.reverse) { platform := "nct6775", index := 1 } =
    .ok "/sys/class/hwmon/hwmon2/temp1_input" := by rw [getChips_reverse, getChips_skipRaws]; decide +kernel

/-- the hypotheses of `C17_sensor_skips_chip_without_index` are satisfiable on that tree -/
example : bindSensor ciContains (getChips skipRaws) { platform := "nct6775", index := 1 } =
    .ok "/sys/class/hwmon/hwmon2/temp1_input" := by
  rw [getChips_skipRaws]
  refine C17_sensor_skips_chip_without_index ciContains _ _ _ _ List.mem_cons_self (by decide +kernel) rfl ?_
  intro c' hc' _ hs
  simp only [List.mem_cons, List.not_mem_nil, or_false] at hc'
  rcases hc' with rfl | rfl
  · rfl
  · cases hs

/-! `bindSensors` / `bindFans` model the loops of `initializeSensors` / `initializeFans`
  (internal/backend.go) over the configured entries, tied to the real functions by the ops
  `hw.bindsensors` / `hw.bindfans`. The loops bind each entry from scratch: entry `i` gets exactly
  what it would get if it were the only entry. -/

/-- a sensor entry names no device: no matching chip has the index -/
def SensorSel.NoDevice (m : String → String → Bool) (chips : List Chip) (sel : SensorSel) : Prop :=
  ∀ c ∈ chips, m sel.platform c.platform = true → lookupTemp c.temps sel.index = none

/-- a fan entry names no device: no fan of a matching chip passes the selector -/
def FanSel.NoDevice (m : String → String → Bool) (chips : List Chip) (sel : FanSel) : Prop :=
  ∀ c ∈ chips, m sel.platform c.platform = true → ∀ f ∈ c.fans, fanOk sel f = false

/-- **C17 (sensors, independent entries).** The call succeeds with inputs `ps` iff there is one
    input per entry and entry `i` ON ITS OWN is bound to `ps[i]`. -/
theorem C17_sensors_independent (m : String → String → Bool) (chips : List Chip)
    (sels : List SensorSel) (ps : List String) :
    bindSensors m chips sels = .ok ps ↔
      ps.length = sels.length ∧
      ∀ i (h₁ : i < sels.length) (h₂ : i < ps.length), bindSensor m chips sels[i] = .ok ps[i] := by
  rw [bindSensors, bindEntries_ok_iff, map_eq_map_ok_iff]

/-- the same, as one equation between lists -/
theorem C17_sensors_independent_map (m : String → String → Bool) (chips : List Chip)
    (sels : List SensorSel) (ps : List String) :
    bindSensors m chips sels = .ok ps ↔ sels.map (bindSensor m chips) = ps.map Res.ok :=
  bindEntries_ok_iff _ _ sels ps

/-- **C17 (sensors, first failure).** The call never panics; it fails iff some entry names no
    device; and the error then carries the position of the FIRST such entry (every entry before
    it has a device). -/
theorem C17_sensors_first_failure (m : String → String → Bool) (chips : List Chip) (sels : List SensorSel) :
    (∀ s, bindSensors m chips sels ≠ .panic s) ∧
    ((∃ e, bindSensors m chips sels = .err e) ↔ ∃ sel ∈ sels, sel.NoDevice m chips) ∧
    (∀ e, bindSensors m chips sels = .err e ↔
      ∃ pre sel post, sels = pre ++ sel :: post ∧ (∀ s ∈ pre, ∃ p, bindSensor m chips s = .ok p) ∧
        sel.NoDevice m chips ∧ e = s!"no-hwmon-device@{pre.length}") := by
  simpa only [bindSensors, bindSensor_err_iff, SensorSel.NoDevice,
      errAt_eq (show "no-hwmon-device" ++ "@" = "no-hwmon-device@" by decide)] using
    bindEntries_first_failure (bindSensor m chips) "no-hwmon-device" sels (bindSensor_ne_panic m chips)

/-- **C17 (sensors, nothing leaks between entries).** Given a successful call:
    (1) any call made only of entries of this call succeeds too (removing, permuting or repeating
        entries cannot make an entry lose its device);
    (2) if entry `i` of this call and entry `j` of any other successful call (on the same chips)
        are the same configuration entry, both are bound to the same input — the one the entry
        gets on its own; the other entries of either call are irrelevant. -/
theorem C17_sensors_no_leak (m : String → String → Bool) (chips : List Chip)
    (sels : List SensorSel) (ps : List String) (h : bindSensors m chips sels = .ok ps) :
    (∀ sels', (∀ sel ∈ sels', sel ∈ sels) → ∃ ps', bindSensors m chips sels' = .ok ps') ∧
    (∀ (sels' : List SensorSel) (ps' : List String) (i j : Nat) (sel : SensorSel), bindSensors m chips sels' = .ok ps' →
        sels[i]? = some sel → sels'[j]? = some sel →
        ∃ p, ps[i]? = some p ∧ ps'[j]? = some p ∧ bindSensor m chips sel = .ok p) :=
  bindEntries_no_leak h

/-- **C17 (fans, independent entries).** The call succeeds with bindings `bs` iff there is one
    binding per entry and entry `i` ON ITS OWN is bound to `bs[i]`. -/
theorem C17_fans_independent (m : String → String → Bool) (chips : List Chip)
    (sels : List FanSel) (bs : List FanBinding) :
    bindFans m chips sels = .ok bs ↔
      bs.length = sels.length ∧
      ∀ i (h₁ : i < sels.length) (h₂ : i < bs.length), bindFan m chips sels[i] = .ok bs[i] := by
  rw [bindFans, bindEntries_ok_iff, map_eq_map_ok_iff]

theorem C17_fans_independent_map (m : String → String → Bool) (chips : List Chip)
    (sels : List FanSel) (bs : List FanBinding) :
    bindFans m chips sels = .ok bs ↔ sels.map (bindFan m chips) = bs.map Res.ok :=
  bindEntries_ok_iff _ _ sels bs

/-- **C17 (fans, first failure).** The call never panics; it fails iff some entry names no
    device; the error carries the position of the FIRST such entry. -/
theorem C17_fans_first_failure (m : String → String → Bool) (chips : List Chip) (sels : List FanSel) :
    (∀ s, bindFans m chips sels ≠ .panic s) ∧
    ((∃ e, bindFans m chips sels = .err e) ↔ ∃ sel ∈ sels, sel.NoDevice m chips) ∧
    (∀ e, bindFans m chips sels = .err e ↔
      ∃ pre sel post, sels = pre ++ sel :: post ∧ (∀ s ∈ pre, ∃ b, bindFan m chips s = .ok b) ∧
        sel.NoDevice m chips ∧ e = s!"no-hwmon-fan-matched@{pre.length}") := by
  simpa only [bindFans, bindFan_err_iff, FanSel.NoDevice,
      errAt_eq (show "no-hwmon-fan-matched" ++ "@" = "no-hwmon-fan-matched@" by decide)] using
    bindEntries_first_failure (bindFan m chips) "no-hwmon-fan-matched" sels (bindFan_ne_panic m chips)

/-- **C17 (fans, nothing leaks between entries).** As `C17_sensors_no_leak`. -/
theorem C17_fans_no_leak (m : String → String → Bool) (chips : List Chip)
    (sels : List FanSel) (bs : List FanBinding) (h : bindFans m chips sels = .ok bs) :
    (∀ sels', (∀ sel ∈ sels', sel ∈ sels) → ∃ bs', bindFans m chips sels' = .ok bs') ∧
    (∀ (sels' : List FanSel) (bs' : List FanBinding) (i j : Nat) (sel : FanSel), bindFans m chips sels' = .ok bs' →
        sels[i]? = some sel → sels'[j]? = some sel →
        ∃ b, bs[i]? = some b ∧ bs'[j]? = some b ∧ bindFan m chips sel = .ok b) :=
  bindEntries_no_leak h

/-- every path triple of a successful `initializeFans` lies in ONE directory: that of a matching
    chip (for well-formed chips, i.e. everything `GetChips` returns) -/
theorem C17_fans_paths_in_matching_chip (m : String → String → Bool) (chips : List Chip)
    (hwf : ∀ c ∈ chips, c.WF) (sels : List FanSel) (bs : List FanBinding)
    (h : bindFans m chips sels = .ok bs) (i : Nat) (sel : FanSel) (b : FanBinding)
    (hi : sels[i]? = some sel) (hb : bs[i]? = some b) :
    ∃ c ∈ chips, m sel.platform c.platform = true ∧ ∃ f ∈ c.fans, fanOk sel f = true ∧
      b.rpmInputPath = c.path ++ "/" ++ ("fan" ++ toString b.rpmChannel ++ "_input") ∧
      b.pwmPath = c.path ++ "/" ++ ("pwm" ++ toString b.pwmChannel) ∧
      b.pwmEnablePath = c.path ++ "/" ++ ("pwm" ++ toString b.pwmChannel ++ "_enable") := by
  obtain ⟨b', hb', hok⟩ := getElem?_of_map_eq_map_ok ((bindEntries_ok_iff _ _ sels bs).1 h) hi
  rw [hb] at hb'; cases hb'
  obtain ⟨c, hc, hm, f, hf, hfok, rfl⟩ := bindFan_sound hok
  obtain ⟨hp, _⟩ := hwf c hc f hf
  refine ⟨c, hc, hm, f, hf, hfok, ?_, ?_, ?_⟩ <;> simp only [mkBinding_eq_expected, expectedBinding, hp]

/-- two sensor entries and three fan entries on the example tree, all bound -/
example : bindSensors ciContains (getChips exRaws) [{ platform := "nct6775", index := 2 }, { platform := "k10temp", index := 1 }] =
    .ok ["/sys/class/hwmon/hwmon2/temp3_input", "/sys/class/hwmon/hwmon1/temp1_input"] := by rw [getChips_exRaws]; decide +kernel
example : bindFans ciContains (getChips exRaws)
      [{ platform := "nct6775", index := 2 }, { platform := "NCT6775", rpmChannel := 2, pwmChannel := 3 }, { platform := "nct6775", index := 2 }] =
    .ok [expectedBinding "/sys/class/hwmon/hwmon2" 2 5 5, expectedBinding "/sys/class/hwmon/hwmon2" 1 2 3,
         expectedBinding "/sys/class/hwmon/hwmon2" 2 5 5] := by rw [getChips_exRaws]; decide +kernel

/-- the first entry without a device aborts the call; later entries (bindable or not) are not looked at -/
example : bindSensors ciContains (getChips exRaws)
      [{ platform := "nct6775", index := 1 }, { platform := "k10temp", index := 2 }, { platform := "zzz", index := 1 }] =
    .err "no-hwmon-device@1" := by rw [getChips_exRaws]; decide +kernel
example : bindFans ciContains (getChips exRaws)
      [{ platform := "nct6775", index := 1 }, { platform := "nct6775", index := 2 }, { platform := "k10temp", index := 1 }, { platform := "nct6775", index := 1 }] =
    .err "no-hwmon-fan-matched@2" := by rw [getChips_exRaws]; decide +kernel

/-- the hypotheses of the `*_no_leak` theorems are satisfiable: the `nct6775 / index 2` entry gets the
    same device at position 0 of one call and at position 1 of another -/
example : ∃ b, (([expectedBinding "/sys/class/hwmon/hwmon2" 2 5 5, expectedBinding "/sys/class/hwmon/hwmon2" 1 2 3,
         expectedBinding "/sys/class/hwmon/hwmon2" 2 5 5] : List FanBinding)[0]? = some b) ∧
      ([expectedBinding "/sys/class/hwmon/hwmon2" 1 2 2, expectedBinding "/sys/class/hwmon/hwmon2" 2 5 5] : List FanBinding)[1]? = some b ∧
      bindFan ciContains (getChips exRaws) { platform := "nct6775", index := 2 } = .ok b :=
  (C17_fans_no_leak ciContains (getChips exRaws)
      [{ platform := "nct6775", index := 2 }, { platform := "NCT6775", rpmChannel := 2, pwmChannel := 3 }, { platform := "nct6775", index := 2 }]
      _ (by rw [getChips_exRaws]; decide +kernel)).2
    [{ platform := "nct6775", index := 1 }, { platform := "nct6775", index := 2 }] _ 0 1 { platform := "nct6775", index := 2 }
    (by rw [getChips_exRaws]; decide +kernel) rfl rfl

#print axioms C17_fanOk_iff
#print axioms C17_getChips_wf
#print axioms C17_fan_paths
#print axioms C17_fan_by_index
#print axioms C17_fan_index_out_of_range
#print axioms C17_fan_by_channel
#print axioms C17_fan_perm_invariant
#print axioms C17_fan_fails_clean
#print axioms C17_sensor_fails_clean
#print axioms C17_sensor_partial
#print axioms C17_sensor_skips_chip_without_index
#print axioms C17_sensor_by_index
#print axioms C17_sensor_perm_invariant
#print axioms C17_sensor_perm_invariant'
#print axioms C17_sensors_independent
#print axioms C17_sensors_independent_map
#print axioms C17_sensors_first_failure
#print axioms C17_sensors_no_leak
#print axioms C17_fans_independent
#print axioms C17_fans_independent_map
#print axioms C17_fans_first_failure
#print axioms C17_fans_no_leak
#print axioms C17_fans_paths_in_matching_chip

end Hwmon
end Fan2go
