import Fan2go.Props.Trans3FileFanOps
import Fan2go.Props.Trans3A
namespace Fan2go
open F64
set_option linter.unusedVariables false  -- `h : w.fan.kind = .file` is part of every statement, used or not

namespace T3G

theorem run_pure {σ α : Type} (a : α) (s : σ) : (pure a : GoM σ α) s = (.ok a, s) := GoM.run_pure a s

variable (w : World)

theorem f_read (p : String) : fileFanOps.readIntFromFile p w = (.ok (fileDevRead p w.dev), w) := rfl
theorem f_write (v : Int) (p : String) :
    fileFanOps.writeIntToFileAtomic v p w =
      if p = pwmPath then (.ok (t3ErrOf (fanSetPwm w.dev v).2), { w with dev := (fanSetPwm w.dev v).1 })
      else (.ok (some "write"), w) := rfl
theorem f_expand (p : String) : fileFanOps.expandHome p w = (.ok (p, none), w) := rfl
theorem f_path : fileFanOps.get_Config_File_Path w = (.ok pwmPath, w) := rfl
theorem f_rpmPath : fileFanOps.get_Config_File_RpmPath w = (.ok (if w.dev.hasRpm then rpmPath else ""), w) := rfl
theorem f_neverStop : fileFanOps.get_Config_NeverStop w = (.ok w.fan.neverStop, w) := rfl
theorem f_getPwm : fileFanOps.get_Pwm w = (.ok w.dev.pwm, w) := rfl
theorem f_setPwm (v : Int) : fileFanOps.set_Pwm v w = (.ok (), w) := rfl
theorem f_getRpm : fileFanOps.get_Rpm w = (.ok w.fan.rpmInt, w) := rfl
theorem f_setRpm (v : Int) :
    fileFanOps.set_Rpm v w = (.ok (), { w with fan := { w.fan with rpmInt := v } }) := rfl

attribute [gom] f_read f_write f_expand f_path f_rpmPath f_neverStop f_getPwm f_setPwm f_getRpm f_setRpm

theorem fileDevRead_pwm (d : Dev) : fileDevRead pwmPath d = fileReadReg d.pwmRead d.pwm := by
  simp [fileDevRead]
theorem fileDevRead_rpm (d : Dev) :
    fileDevRead rpmPath d = if d.hasRpm then fileReadReg d.rpmRead d.rpm else (-1, some "read") := by
  simp [fileDevRead, rpmPath, pwmPath]
theorem fileDevRead_empty (d : Dev) : fileDevRead "" d = (-1, some "read") := by
  simp [fileDevRead, rpmPath, pwmPath]

end T3G

open T3G

variable (indef : Int) (curve : Res Int) (now : Int) (w : World)

theorem trans3_FileFan_Supports (h : w.fan.kind = .file) (k : Int) :
    Generated3.FileFan_Supports indef fileFanOps k w = (modelOps indef curve now).fan_Supports k w := by
  unfold Generated3.FileFan_Supports
  rcases (by omega : k = 0 ∨ k = 1 ∨ k = 2 ∨ (k ≠ 0 ∧ k ≠ 1 ∧ k ≠ 2)) with rfl | rfl | rfl | ⟨h0, h1, h2⟩
  · simp only [gom, fileDevRead_pwm]
    cases hh : w.dev.pwmRead <;> simp [supports, h, hh, fileReadReg]
  · cases hh : w.dev.hasRpm <;> simp [gom, supports, hh, Go.lenS_empty, (by decide : Go.lenS rpmPath > 0)]
  · simp [gom, supports, h]
  · simp [gom, h0, h1, h2]

theorem trans3_FileFan_GetPwm (h : w.fan.kind = .file) :
    Generated3.FileFan_GetPwm indef fileFanOps w = (modelOps indef curve now).fan_GetPwm w := by
  unfold Generated3.FileFan_GetPwm
  simp only [gom, fileDevRead_pwm]
  unfold fanGetPwm
  cases w.dev.pwmRead <;> simp [gom, fileReadReg, goRead]

theorem trans3_FileFan_SetPwm (h : w.fan.kind = .file) (v : Int) :
    Generated3.FileFan_SetPwm indef fileFanOps v w = (modelOps indef curve now).fan_SetPwm v w := by
  unfold Generated3.FileFan_SetPwm
  simp only [gom]
  cases t3ErrOf (fanSetPwm w.dev v).2 <;> simp [gom]

theorem trans3_FileFan_GetRpm (h : w.fan.kind = .file) :
    Generated3.FileFan_GetRpm indef fileFanOps w = (modelOps indef curve now).fan_GetRpm w := by
  unfold Generated3.FileFan_GetRpm
  simp only [gom]
  unfold modelGetRpm fanGetRpm
  cases hr : w.dev.hasRpm
  · simp [gom, h, goRead, fileDevRead_empty]
  · cases hh : w.dev.rpmRead <;>
      simp [gom, fileReadReg, goRead, hh, hr, h, fileDevRead_rpm]

theorem trans3_FileFan_GetMinPwm (h : w.fan.kind = .file) :
    Generated3.FileFan_GetMinPwm indef fileFanOps w = (modelOps indef curve now).fan_GetMinPwm w := by
  unfold Generated3.FileFan_GetMinPwm
  simp [gom, FanSt.getMin, h]

theorem trans3_FileFan_GetMaxPwm (h : w.fan.kind = .file) :
    Generated3.FileFan_GetMaxPwm indef fileFanOps w = (modelOps indef curve now).fan_GetMaxPwm w := by
  unfold Generated3.FileFan_GetMaxPwm
  simp [gom, FanSt.getMax, h]

theorem trans3_FileFan_GetStartPwm (h : w.fan.kind = .file) :
    Generated3.FileFan_GetStartPwm indef fileFanOps w = (.ok w.fan.getStart, w) := by
  unfold Generated3.FileFan_GetStartPwm
  simp [gom, FanSt.getStart, h]

theorem trans3_FileFan_GetRpmAvg (h : w.fan.kind = .file) :
    Generated3.FileFan_GetRpmAvg indef fileFanOps w = (modelOps indef curve now).fan_GetRpmAvg w := by
  unfold Generated3.FileFan_GetRpmAvg
  simp only [gom]
  simp [FanSt.getRpmAvg, h]

theorem trans3_FileFan_SetRpmAvg (h : w.fan.kind = .file) (x : F64) :
    Generated3.FileFan_SetRpmAvg indef fileFanOps x w = (modelOps indef curve now).fan_SetRpmAvg x w := by
  unfold Generated3.FileFan_SetRpmAvg
  simp only [gom]
  simp [FanSt.setRpmAvg, h]

theorem trans3_FileFan_ShouldNeverStop (h : w.fan.kind = .file) :
    Generated3.FileFan_ShouldNeverStop indef fileFanOps w = (modelOps indef curve now).fan_ShouldNeverStop w := by
  unfold Generated3.FileFan_ShouldNeverStop
  simp only [gom]

theorem trans3_FileFan_SetPwmEnabled (h : w.fan.kind = .file) (v : Int) :
    Generated3.FileFan_SetPwmEnabled indef fileFanOps v w = (modelOps indef curve now).fan_SetPwmEnabled v w := by
  unfold Generated3.FileFan_SetPwmEnabled
  simp [gom, setPwmEnabled, h, t3ErrOf]

theorem trans3_FileFan_UpdateFanRpmCurveValue (h : w.fan.kind = .file) (pwm : Int) (rpm : F64) :
    Generated3.FileFan_UpdateFanRpmCurveValue indef fileFanOps pwm rpm w
      = (modelOps indef curve now).fan_UpdateFanRpmCurveValue pwm rpm w := by
  unfold Generated3.FileFan_UpdateFanRpmCurveValue
  simp [gom, modelUpdateCurveValue, h]

theorem trans3_FileFan_limits_fixed (h : w.fan.kind = .file) (pwm : Int) (force : Bool) :
    Generated3.FileFan_SetMinPwm indef fileFanOps pwm force w = (.ok (), { w with fan := w.fan.setMin pwm force })
    ∧ Generated3.FileFan_SetStartPwm indef fileFanOps pwm force w = (.ok (), { w with fan := w.fan.setStart pwm force })
    ∧ Generated3.FileFan_SetMaxPwm indef fileFanOps pwm force w = (.ok (), { w with fan := w.fan.setMax pwm force }) := by
  unfold Generated3.FileFan_SetMinPwm Generated3.FileFan_SetStartPwm Generated3.FileFan_SetMaxPwm
  simp [gom, FanSt.setMin, FanSt.setStart, FanSt.setMax, h]

theorem trans3_FileFan_AttachFanRpmCurveData (h : w.fan.kind = .file) (data : Option (List (Int × F64))) :
    Generated3.FileFan_AttachFanRpmCurveData indef fileFanOps data w
      = (.ok (t3ErrOf (w.fan.attach indef data).2), { w with fan := (w.fan.attach indef data).1 }) := by
  unfold Generated3.FileFan_AttachFanRpmCurveData
  simp [gom, FanSt.attach, h, t3ErrOf]

end Fan2go

#print axioms Fan2go.trans3_FileFan_Supports
#print axioms Fan2go.trans3_FileFan_GetPwm
#print axioms Fan2go.trans3_FileFan_SetPwm
#print axioms Fan2go.trans3_FileFan_GetRpm
#print axioms Fan2go.trans3_FileFan_GetMinPwm
#print axioms Fan2go.trans3_FileFan_GetMaxPwm
#print axioms Fan2go.trans3_FileFan_GetStartPwm
#print axioms Fan2go.trans3_FileFan_GetRpmAvg
#print axioms Fan2go.trans3_FileFan_SetRpmAvg
#print axioms Fan2go.trans3_FileFan_ShouldNeverStop
#print axioms Fan2go.trans3_FileFan_SetPwmEnabled
#print axioms Fan2go.trans3_FileFan_UpdateFanRpmCurveValue
#print axioms Fan2go.trans3_FileFan_limits_fixed
#print axioms Fan2go.trans3_FileFan_AttachFanRpmCurveData
