/-
  C20 – "Concurrent activities are free of data races".

  Tie to the code: `Generated/Access.lean` (`Generated.accesses`) is re-extracted from /repo's CURRENT
  sources on every check run by go/accessgen (SSA + call graph + lockset dataflow; reflection readers
  `reprint` / `encoding/json` / echo's `JSONPretty` are expanded to reads of the fields they visit).

  The lockset discipline is sound on the abstract machine of `Model/Lockset.lean`, for any table and any
  number of activity instances (`C20_lockset_sound`). The full-strength property – no lockset conflict in the
  regenerated table, `C20_statement` – is FALSE on the current tree (`C20_refuted`). What holds is that the
  conflicts of the table are exactly the hand-maintained list `knownConflicts`, one line per
  (obj.field, kindA, kindB), by one kernel evaluation (`C20_table_eval`): a NEW unguarded shared field, a new
  reader/writer pairing or a dropped `Lock()` produces a triple outside the list and breaks `C20_partial` at
  `lake build`; a fixed race must be removed from the list (`C20_known_all_real`), so the list cannot rot into
  a blanket excuse. Consequently every race the machine can reach on the regenerated table is on a known
  triple (`C20_partial_sound`).

  What the abstraction cannot see: happens-before through channels, atomics, aliasing between objects, objects
  behind untracked interfaces. The race-detector stream (vlib/streams_race.py) is used to validate the table,
  never as part of the proof.
-/
import Fan2go.Proofs.Lockset
import Fan2go.Generated.Access
namespace Fan2go
open Lockset Generated

/-- lockset soundness, any table: if all pairs of race shape share a mutex, no reachable state of the
    abstract machine has two conflicting accesses simultaneously in progress -/
theorem C20_lockset_sound (tbl : List Access)
    (h : ∀ a ∈ tbl, ∀ b ∈ tbl, conflictShape a b = true → ∃ l, l ∈ a.locks ∧ l ∈ b.locks) :
    ∀ s, Reachable tbl s → ¬ Race s :=
  lockset_sound fun a ha b hb hs => commonLock_iff.mpr (h a ha b hb hs)

/-- the full-strength property on the regenerated table -/
def C20_statement : Prop := conflicts accesses = []

/-- if the statement held, the machine running the regenerated table would be race free -/
theorem C20_statement_sound : C20_statement → ∀ s, Reachable accesses s → ¬ Race s :=
  sound_of_no_conflicts

/-- KNOWN FINDINGS on the current tree (hand-maintained; (obj.field, kindA, kindB), kinds ordered
    api < collector < control < init < rpmmon < sensor). Positions of example pairs: build/access.json;
    "written at" gives the position accessgen reports, which for a store of a parameter's address or a write
    inside a callee is the line of the function header or of the call. -/
def knownConflicts : List (String × String × String) := [
  -- CmdFan.Pwm  (written at internal/fans/cmd.go:95)
  ("CmdFan.Pwm", "api", "collector"),
  ("CmdFan.Pwm", "api", "control"),
  ("CmdFan.Pwm", "api", "init"),
  ("CmdFan.Pwm", "api", "rpmmon"),
  ("CmdFan.Pwm", "collector", "collector"),
  ("CmdFan.Pwm", "collector", "control"),
  ("CmdFan.Pwm", "collector", "init"),
  ("CmdFan.Pwm", "collector", "rpmmon"),
  ("CmdFan.Pwm", "control", "rpmmon"),
  -- CmdFan.Rpm  (written at internal/fans/cmd.go:67; internal/fans/cmd.go:77)
  ("CmdFan.Rpm", "api", "collector"),
  ("CmdFan.Rpm", "api", "control"),
  ("CmdFan.Rpm", "api", "rpmmon"),
  ("CmdFan.Rpm", "collector", "collector"),
  ("CmdFan.Rpm", "collector", "control"),
  ("CmdFan.Rpm", "collector", "rpmmon"),
  ("CmdFan.Rpm", "control", "rpmmon"),
  -- CmdSensor.MovingAvg  (written at internal/sensors/cmd.go:60)
  ("CmdSensor.MovingAvg", "api", "sensor"),
  -- DefaultFanController.lastSetPwm  (written at internal/controller/controller.go:527)
  ("DefaultFanController.lastSetPwm", "control", "rpmmon"),
  -- DefaultFanController.stats  (written at internal/controller/controller.go:518)
  ("DefaultFanController.stats", "collector", "control"),
  -- FanControllerStatistics.IncreasedMinPwmCount  (written at internal/controller/controller.go:676)
  ("FanControllerStatistics.IncreasedMinPwmCount", "collector", "control"),
  -- FanControllerStatistics.MinPwmOffset  (written at internal/controller/controller.go:675)
  ("FanControllerStatistics.MinPwmOffset", "collector", "control"),
  -- FanControllerStatistics.UnexpectedPwmValueCount  (written at internal/controller/controller.go:518)
  ("FanControllerStatistics.UnexpectedPwmValueCount", "collector", "control"),
  -- FileFan.Pwm  (written at internal/fans/file.go:93)
  ("FileFan.Pwm", "api", "collector"),
  ("FileFan.Pwm", "api", "control"),
  ("FileFan.Pwm", "api", "init"),
  ("FileFan.Pwm", "api", "rpmmon"),
  ("FileFan.Pwm", "collector", "collector"),
  ("FileFan.Pwm", "collector", "control"),
  ("FileFan.Pwm", "collector", "init"),
  ("FileFan.Pwm", "collector", "rpmmon"),
  ("FileFan.Pwm", "control", "rpmmon"),
  -- FileFan.Rpm  (written at internal/fans/file.go:64; internal/fans/file.go:73)
  ("FileFan.Rpm", "api", "collector"),
  ("FileFan.Rpm", "api", "control"),
  ("FileFan.Rpm", "api", "rpmmon"),
  ("FileFan.Rpm", "collector", "collector"),
  ("FileFan.Rpm", "collector", "control"),
  ("FileFan.Rpm", "collector", "rpmmon"),
  ("FileFan.Rpm", "control", "rpmmon"),
  -- FileSensor.MovingAvg  (written at internal/sensors/file.go:59)
  ("FileSensor.MovingAvg", "api", "sensor"),
  -- FunctionSpeedCurve.Value  (written at internal/curves/functional.go:97)
  ("FunctionSpeedCurve.Value", "api", "control"),
  -- HwMonFan.FanCurveData  (written at internal/controller/controller.go:146; internal/fans/hwmon.go:136)
  ("HwMonFan.FanCurveData", "api", "init"),
  ("HwMonFan.FanCurveData", "api", "rpmmon"),
  -- HwMonFan.MaxPwm  (written at internal/fans/hwmon.go:70)
  ("HwMonFan.MaxPwm", "api", "init"),
  -- HwMonFan.MinPwm  (written at internal/fans/hwmon.go:42)
  ("HwMonFan.MinPwm", "api", "init"),
  -- HwMonFan.Pwm  (written at internal/fans/hwmon.go:98)
  ("HwMonFan.Pwm", "api", "collector"),
  ("HwMonFan.Pwm", "api", "control"),
  ("HwMonFan.Pwm", "api", "init"),
  ("HwMonFan.Pwm", "api", "rpmmon"),
  ("HwMonFan.Pwm", "collector", "collector"),
  ("HwMonFan.Pwm", "collector", "control"),
  ("HwMonFan.Pwm", "collector", "init"),
  ("HwMonFan.Pwm", "collector", "rpmmon"),
  ("HwMonFan.Pwm", "control", "rpmmon"),
  -- HwMonFan.Rpm  (written at internal/fans/hwmon.go:80)
  ("HwMonFan.Rpm", "api", "collector"),
  ("HwMonFan.Rpm", "api", "init"),
  ("HwMonFan.Rpm", "api", "rpmmon"),
  ("HwMonFan.Rpm", "collector", "collector"),
  ("HwMonFan.Rpm", "collector", "init"),
  ("HwMonFan.Rpm", "collector", "rpmmon"),
  -- HwMonFan.RpmMovingAvg  (written at internal/fans/hwmon.go:90)
  ("HwMonFan.RpmMovingAvg", "api", "control"),
  ("HwMonFan.RpmMovingAvg", "api", "init"),
  ("HwMonFan.RpmMovingAvg", "api", "rpmmon"),
  ("HwMonFan.RpmMovingAvg", "control", "rpmmon"),
  -- HwMonFan.StartPwm  (written at internal/fans/hwmon.go:56)
  ("HwMonFan.StartPwm", "api", "init"),
  -- HwmonSensor.MovingAvg  (written at internal/sensors/hwmon.go:47)
  ("HwmonSensor.MovingAvg", "api", "sensor"),
  -- LinearSpeedCurve.Value  (written at internal/curves/linear.go:57)
  ("LinearSpeedCurve.Value", "api", "control"),
  -- PidLoop.error  (written at internal/util/pid.go:48)
  ("PidLoop.error", "control", "control"),
  -- PidLoop.integral  (written at internal/util/pid.go:43)
  ("PidLoop.integral", "control", "control"),
  -- PidLoop.lastTime  (written at internal/util/pid.go:38)
  ("PidLoop.lastTime", "control", "control"),
  -- PidSpeedCurve.Value  (written at internal/curves/pid.go:47)
  ("PidSpeedCurve.Value", "api", "control"),
  ("PidSpeedCurve.Value", "control", "control")
]

def sameSet (xs ys : List (String × String × String)) : Bool :=
  xs.all (fun c => ys.contains c) && ys.all (fun c => xs.contains c)

theorem sameSet_iff {xs ys : List (String × String × String)} :
    sameSet xs ys = true ↔ ∀ c, c ∈ xs ↔ c ∈ ys := by
  simp only [sameSet, Bool.and_eq_true, List.all_eq_true, List.contains_iff_mem]
  exact ⟨fun h c => ⟨h.1 c, h.2 c⟩, fun h => ⟨fun c => (h c).1, fun c => (h c).2⟩⟩

/-- ONE kernel evaluation of the conflict computation on the regenerated table (through the writers:
    `mem_writerConflicts`) -/
theorem C20_table_eval : ∀ c, c ∈ conflicts accesses ↔ c ∈ knownConflicts := by
  have h : sameSet (writerConflicts accesses) knownConflicts = true := by decide +kernel
  exact fun c => mem_writerConflicts.symm.trans (sameSet_iff.1 h c)

/-- the tie to the regenerated table: every lockset conflict of the current tree is a known finding -/
theorem C20_partial : ∀ c ∈ conflicts accesses, c ∈ knownConflicts :=
  fun c => (C20_table_eval c).1

/-- every known finding still is a conflict of the current tree -/
theorem C20_known_all_real : ∀ c ∈ knownConflicts, c ∈ conflicts accesses :=
  fun c => (C20_table_eval c).2

/-- the full-strength statement is false on the current tree -/
theorem C20_refuted : ¬ C20_statement := by
  intro h
  have hm : ("HwMonFan.FanCurveData", "api", "rpmmon") ∈ conflicts accesses :=
    C20_known_all_real _ (by decide)
  rw [h] at hm
  cases hm

/-- Whenever the abstract machine, running the regenerated table, has two different
    activity instances inside accesses of race shape, the pair is one of the known findings. -/
theorem C20_partial_sound (s : St) (hs : Reachable accesses s) (i j : Nat) (a b : Access)
    (hij : i ≠ j) (ha : s.cur i = some a) (hb : s.cur j = some b) (hc : conflictShape a b = true) :
    triple a b ∈ knownConflicts :=
  C20_partial _ (race_listed hs hij ha hb hc)

/-- ... equivalently: outside the known-findings list no race is reachable -/
theorem C20_race_free_outside_known (s : St) (hs : Reachable accesses s) (i j : Nat) (a b : Access)
    (hij : i ≠ j) (ha : s.cur i = some a) (hb : s.cur j = some b) (hk : triple a b ∉ knownConflicts) :
    conflictShape a b = false :=
  Bool.eq_false_iff.mpr fun hc => hk (C20_partial_sound s hs i j a b hij ha hb hc)

/-- a known finding is a real race of the machine: a REST request marshals `HwMonFan.FanCurveData` while the
    RPM monitor inserts into the same map (the Go runtime aborts on this one). The two rows are rows of the
    regenerated table (the two `decide +kernel`): if accessgen renames a root, they have to follow. -/
example : ∃ s, Reachable accesses s ∧ Race s :=
  conflict_reachable
    (a := ⟨"api.getFan", "api", "HwMonFan", "FanCurveData", false, []⟩)
    (b := ⟨"controller.DefaultFanController.measureRpm", "rpmmon", "HwMonFan", "FanCurveData", true, []⟩)
    (by decide +kernel) (by decide +kernel) rfl rfl (by decide)

/-- the per-sensor mutex does its job: monitor write vs. control-loop read of `MovingAvg` is no conflict ... -/
example : conflict ⟨"internal.sensorMonitor.Run", "sensor", "HwmonSensor", "MovingAvg", true, ["HwmonSensor.mu"]⟩
    ⟨"controller.DefaultFanController.UpdateFanSpeed", "control", "HwmonSensor", "MovingAvg", false, ["HwmonSensor.mu"]⟩ = false := by
  decide

/-- ... and dropping the `Lock()` on either side is reported under a triple that is NOT a known finding -/
example : conflicts [⟨"internal.sensorMonitor.Run", "sensor", "HwmonSensor", "MovingAvg", true, []⟩,
    ⟨"controller.DefaultFanController.UpdateFanSpeed", "control", "HwmonSensor", "MovingAvg", false, ["HwmonSensor.mu"]⟩]
      = [("HwmonSensor.MovingAvg", "control", "sensor")]
    ∧ ("HwmonSensor.MovingAvg", "control", "sensor") ∉ knownConflicts := by
  decide

/-- two fans' control loops: a shared curve object conflicts, the per-fan controller object does not -/
example : concurrentKinds ⟨"x", "control", "PidLoop", "integral", true, []⟩ ⟨"y", "control", "PidLoop", "integral", true, []⟩ = true
    ∧ concurrentKinds ⟨"x", "control", "DefaultFanController", "lastSetPwm", true, []⟩
        ⟨"y", "control", "DefaultFanController", "lastSetPwm", true, []⟩ = false := by
  decide

#print axioms C20_lockset_sound
#print axioms C20_statement_sound
#print axioms C20_table_eval
#print axioms C20_partial
#print axioms C20_known_all_real
#print axioms C20_refuted
#print axioms C20_partial_sound
#print axioms C20_race_free_outside_known

end Fan2go
