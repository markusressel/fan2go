/-
  C06 — "Curves evaluate to their documented function, always within 0..255".

  Statements about the MODEL `Fan2go/Model/Curves.lean` (+ `Model/Util.lean`) of
  internal/curves/{linear,functional,pid}.go and internal/util/{math,pid}.go.
  Every theorem holds for ALL values `indef` of the implementation-defined `int(NaN)`.

  Outcome:
  * linear (min/max and steps) and the six function types: PROVED in range 0..255 and equal to the
    documented function, for every non-NaN sensor average (±Inf included), under the hypotheses
    stated in each theorem (64-bit `min`/`max`; step keys `|k| ≤ 2^50`; speeds binary64 in [0,255];
    at most `2^40` members).
  * the dependency on C08 is a theorem: a NaN average makes the min/max form return `int(NaN)`
    (`C06_linear_nan`).
  * PID curve: in range when the loop value is not NaN (`C06_pid_range`), `int(NaN)` when it is
    (`C06_pid_nan`); the unconditional claim is REFUTED (`C06_pid_refuted`).
-/
import Fan2go.Proofs.CurveTree

namespace Fan2go
open F64

/-- Range, for every non-NaN average (finite, `+Inf`, `-Inf`) and ANY 64-bit `min`, `max`
    (also `min ≥ max`). -/
theorem C06_linear_range (indef : Int) {avg : F64} (havg : avg ≠ nan) {mn mx : Int}
    (hmn : |mn| ≤ 2 ^ 63) (hmx : |mx| ≤ 2 ^ 63) :
    0 ≤ linMinMax indef avg mn mx ∧ linMinMax indef avg mn mx ≤ 255 :=
  linMinMax_range indef havg hmn hmx

example : 0 ≤ linMinMax (-2 ^ 63) (fin 45000) 40 60 ∧ linMinMax (-2 ^ 63) (fin 45000) 40 60 ≤ 255 :=
  C06_linear_range _ (by simp) (by norm_num) (by norm_num)
example : linMinMax (-2 ^ 63) (fin 45000) 40 60 = 63 := by decide +kernel

/-- Saturation: at/above `max` the value is 255; at/below `min` (and below `max`) it is 0.
    The comparisons are Go's float64 comparisons with `float64(max)*1000`, `float64(min)*1000`. -/
theorem C06_linear_ends (indef : Int) (avg : F64) (mn mx : Int) :
    (ge avg (ofInt mx * ofInt 1000) = true → linMinMax indef avg mn mx = 255) ∧
    (ge avg (ofInt mx * ofInt 1000) = false → le avg (ofInt mn * ofInt 1000) = true →
      linMinMax indef avg mn mx = 0) := by
  constructor
  · intro h; unfold linMinMax; simp only [h, if_true]
  · intro h1 h2; unfold linMinMax; simp only [h1, h2, Bool.false_eq_true, if_false, if_true]

/-- the same in degrees, for realistic temperatures (`float64(n)*1000` is then exact). -/
theorem C06_linear_ends_exact (indef : Int) (q : ℚ) {mn mx : Int} (hmn : |mn| ≤ 2 ^ 43)
    (hmx : |mx| ≤ 2 ^ 43) :
    ((mx : ℚ) * 1000 ≤ q → linMinMax indef (fin q) mn mx = 255) ∧
    (q < (mx : ℚ) * 1000 → q ≤ (mn : ℚ) * 1000 → linMinMax indef (fin q) mn mx = 0) := by
  have := C06_linear_ends indef (fin q) mn mx
  rw [ofInt_mul_1000 (hmn.trans (by norm_num)), ofInt_mul_1000 (hmx.trans (by norm_num)),
    kTemp_exact hmn, kTemp_exact hmx] at this
  simp only [← Bool.not_eq_true, ge_fin_fin, le_fin_fin, not_le] at this
  exact this

example : linMinMax (-2 ^ 63) (fin 60000) 40 60 = 255 :=
  (C06_linear_ends_exact _ 60000 (by norm_num) (by norm_num)).1 (by norm_num)
example : linMinMax (-2 ^ 63) (fin 40000) 40 60 = 0 :=
  (C06_linear_ends_exact _ 40000 (by norm_num) (by norm_num)).2 (by norm_num) (by norm_num)

/-- Between the ends the value is the truncation of four correctly rounded float64 operations
    `((q - m) / (X - m)) * 255` with `m = float64(min)*1000`, `X = float64(max)*1000`. -/
theorem C06_linear_mid (indef : Int) {q : ℚ} {mn mx : Int} (hmn : |mn| ≤ 2 ^ 63)
    (hmx : |mx| ≤ 2 ^ 63) (h1 : kTemp mn < q) (h2 : q < kTemp mx) :
    linMinMax indef (fin q) mn mx
      = truncRat (fl64 (fl64 (fl64 (q - kTemp mn) / fl64 (kTemp mx - kTemp mn)) * 255)) :=
  linMinMax_mid indef hmn hmx h1 h2

example : kTemp 40 < (45000 : ℚ) ∧ (45000 : ℚ) < kTemp 60 := by
  rw [kTemp_exact (by norm_num), kTemp_exact (by norm_num)]; norm_num

/-- Agreement with the documented function: for realistic temperatures (`|min|, |max| ≤ 2^42` °C,
    `min·1000 < q < max·1000`) the value differs from the exact
    `255·(q − 1000·min)/(1000·(max − min))` by less than `1 + 2^-40` — the `1` is the truncation
    `int(·)`, the rest bounds all four float64 roundings. (The bound `2^42` makes the width
    `(max − min)·1000` an integer below `2^53`, which is computed exactly: `linWidth_exact`.) -/
theorem C06_linear_close (indef : Int) {q : ℚ} {mn mx : Int} (hmn : |mn| ≤ 2 ^ 42)
    (hmx : |mx| ≤ 2 ^ 42) (h1 : (mn : ℚ) * 1000 < q) (h2 : q < (mx : ℚ) * 1000) :
    |((linMinMax indef (fin q) mn mx : Int) : ℚ)
      - 255 * (q - 1000 * mn) / (1000 * ((mx : ℚ) - mn))| < 1 + 1 / 2 ^ 40 := by
  have e1 := kTemp_exact (n := mn) (hmn.trans (by norm_num))
  have e2 := kTemp_exact (n := mx) (hmx.trans (by norm_num))
  rw [linMinMax_mid indef (hmn.trans (by norm_num)) (hmx.trans (by norm_num)) (e1 ▸ h1) (e2 ▸ h2),
    e1, e2]
  obtain ⟨hW, hW1⟩ := linWidth_exact hmn hmx (by exact_mod_cast (by linarith : (mn : ℚ) < mx))
  have hc := abs_le.mp (linMid_close hW hW1 h1.le h2.le)
  have ht := truncRat_spec_of_nonneg (linMid_bounds h1.le h2.le).1
  rw [show 255 * (q - 1000 * mn) / (1000 * ((mx : ℚ) - mn))
    = 255 * ((q - mn * 1000) / (mx * 1000 - mn * 1000)) by ring, abs_lt]
  constructor <;> linarith [ht.1, ht.2, hc.1, hc.2]

example : |((linMinMax (-2 ^ 63) (fin 45000) 40 60 : Int) : ℚ)
    - 255 * (45000 - 1000 * (40 : Int)) / (1000 * (((60 : Int) : ℚ) - (40 : Int)))| < 1 + 1 / 2 ^ 40 :=
  C06_linear_close _ (by norm_num) (by norm_num) (by norm_num) (by norm_num)

/-- **Dependency on C08**: with a NaN average both guards are false, the ratio is NaN and the
    curve returns the implementation-defined `int(NaN)` (amd64: `-2^63`) — for any `min`, `max`. -/
theorem C06_linear_nan (indef : Int) (mn mx : Int) : linMinMax indef nan mn mx = indef := by
  unfold linMinMax
  simp

example : linMinMax (-2 ^ 63) nan 40 60 = -2 ^ 63 := C06_linear_nan _ _ _

/-- Range: non-empty steps, keys strictly increasing with `|key| ≤ 2^50`, speeds finite binary64
    values in `[0, 255]` (in any order); every non-NaN average. -/
theorem C06_steps_range (indef : Int) {ks : List (Int × ℚ)} (hne : ks ≠ [])
    (hb : ∀ p ∈ ks, |p.1| ≤ 2 ^ 50 ∧ Rep64 p.2 ∧ 0 ≤ p.2 ∧ p.2 ≤ 255)
    (hkeys : ks.Pairwise (fun a b => a.1 < b.1)) {avg : F64} (havg : avg ≠ nan) :
    ∃ v, linSteps indef avg (toSteps ks) = .ok v ∧ 0 ≤ v ∧ v ≤ 255 :=
  linSteps_range indef (StepsOK.of_flat hb hkeys) hne havg

def exSteps : List (Int × ℚ) := [(40, 0), (50, 100), (60, 255)]

theorem exSteps_ok : (∀ p ∈ exSteps, |p.1| ≤ 2 ^ 50 ∧ Rep64 p.2 ∧ 0 ≤ p.2 ∧ p.2 ≤ 255) ∧
    exSteps.Pairwise (fun a b => a.1 < b.1) := by
  refine ⟨?_, by simp [exSteps]⟩
  simp only [exSteps, List.forall_mem_cons, List.not_mem_nil, false_imp_iff, implies_true, and_true]
  exact ⟨⟨by norm_num, rep64_0, le_rfl, by norm_num⟩,
    ⟨by norm_num, rep64_ofNat 100 (by norm_num), by norm_num, by norm_num⟩,
    ⟨by norm_num, rep64_ofNat 255 (by norm_num), by norm_num, by norm_num⟩⟩

example : ∃ v, linSteps (-2 ^ 63) (fin 45000) (toSteps exSteps) = .ok v ∧ 0 ≤ v ∧ v ≤ 255 :=
  C06_steps_range _ (by simp [exSteps]) exSteps_ok.1 exSteps_ok.2 (by simp)
example : linSteps (-2 ^ 63) (fin 45000) (toSteps exSteps) = .ok 50 := by decide +kernel

/-- At the knots: if the scaled reading `avg/1000` is exactly a key, the value is the configured
    speed of that key, rounded (`math.Round`: half away from zero). -/
theorem C06_steps_at_knots (indef : Int) {ks : List (Int × ℚ)}
    (hb : ∀ p ∈ ks, |p.1| ≤ 2 ^ 50 ∧ Rep64 p.2 ∧ 0 ≤ p.2 ∧ p.2 ≤ 255)
    (hkeys : ks.Pairwise (fun a b => a.1 < b.1)) {avg : F64} {k : Int} {v : ℚ}
    (hmem : (k, v) ∈ ks) (havg : avg / ofInt 1000 = fin (k : ℚ)) :
    linSteps indef avg (toSteps ks) = .ok (roundRat v) := by
  have hok := StepsOK.of_flat hb hkeys
  rw [linSteps_fin indef hok (List.ne_nil_of_mem hmem) havg, curveQ_at_key hok hmem]

example : linSteps (-2 ^ 63) (fin ((50 * 1000 : Int) : ℚ)) (toSteps exSteps)
    = .ok (roundRat 100) :=
  C06_steps_at_knots _ exSteps_ok.1 exSteps_ok.2 (by simp [exSteps]) (div1000_exact (by norm_num))
example : roundRat 100 = 100 := by simpa using roundRat_intCast 100

/-- Below (or at) the first key the value is the rounded first speed; at or above the last key it
    is the rounded last speed. Also for `-Inf` / `+Inf`. -/
theorem C06_steps_outside (indef : Int) {x : Int} {y : ℚ} {rest : List (Int × ℚ)}
    (hb : ∀ p ∈ (x, y) :: rest, |p.1| ≤ 2 ^ 50 ∧ Rep64 p.2 ∧ 0 ≤ p.2 ∧ p.2 ≤ 255)
    (hkeys : ((x, y) :: rest).Pairwise (fun a b => a.1 < b.1)) {avg : F64} :
    (∀ q : ℚ, avg / ofInt 1000 = fin q → q ≤ x →
      linSteps indef avg (toSteps ((x, y) :: rest)) = .ok (roundRat y)) ∧
    (∀ q : ℚ, avg / ofInt 1000 = fin q → (∀ p ∈ (x, y) :: rest, (p.1 : ℚ) ≤ q) →
      linSteps indef avg (toSteps ((x, y) :: rest)) = .ok (roundRat (lastY ((x, y) :: rest)))) ∧
    (avg = inf true → linSteps indef avg (toSteps ((x, y) :: rest)) = .ok (roundRat y)) ∧
    (avg = inf false →
      linSteps indef avg (toSteps ((x, y) :: rest)) = .ok (roundRat (lastY ((x, y) :: rest)))) := by
  have hok := StepsOK.of_flat hb hkeys
  refine ⟨?_, ?_, ?_, ?_⟩
  · intro q hq hqx
    rw [linSteps_fin indef hok (List.cons_ne_nil _ _) hq, curveQ_of_le x y rest hqx]
  · intro q hq hall
    rw [linSteps_fin indef hok (List.cons_ne_nil _ _) hq, curveQ_above hok hall]
  · rintro rfl
    -- `inf true / fin 1000` and `curveF` at it compute, so `this` is the goal
    have := (linSteps_val indef hok (List.cons_ne_nil _ _) (avg := inf true) (by simp)).1
    rwa [ofInt_1000] at this
  · rintro rfl
    have := (linSteps_val indef hok (List.cons_ne_nil _ _) (avg := inf false) (by simp)).1
    rwa [ofInt_1000] at this

example : linSteps (-2 ^ 63) (inf false) (toSteps exSteps) = .ok (roundRat 255) :=
  (C06_steps_outside _ exSteps_ok.1 exSteps_ok.2).2.2.2 rfl

/-- Between two adjacent steps with integer speeds `a`, `b` (`k ≤ avg/1000 < k'`) the value lies
    between them, in whichever order they are. -/
theorem C06_steps_between (indef : Int) (l1 l2 : List (Int × ℚ)) (k k' a b : Int)
    (hb : ∀ p ∈ l1 ++ (k, (a : ℚ)) :: (k', (b : ℚ)) :: l2,
      |p.1| ≤ 2 ^ 50 ∧ Rep64 p.2 ∧ 0 ≤ p.2 ∧ p.2 ≤ 255)
    (hkeys : (l1 ++ (k, (a : ℚ)) :: (k', (b : ℚ)) :: l2).Pairwise (fun a b => a.1 < b.1))
    {avg : F64} {q : ℚ} (hq : avg / ofInt 1000 = fin q) (hq1 : (k : ℚ) ≤ q) (hq2 : q < k') :
    ∃ w, linSteps indef avg (toSteps (l1 ++ (k, (a : ℚ)) :: (k', (b : ℚ)) :: l2)) = .ok w ∧
      min a b ≤ w ∧ w ≤ max a b := by
  have hok := StepsOK.of_flat hb hkeys
  have hka : SpeedOK (a : ℚ) := (hok.1 (k, (a : ℚ)) (by simp)).2
  have hkb : SpeedOK (b : ℚ) := (hok.1 (k', (b : ℚ)) (by simp)).2
  refine ⟨_, linSteps_fin indef hok (by simp) hq, ?_⟩
  rw [curveQ_seg l1 l2 k k' a b hok hq1 hq2]
  suffices hz : ((min a b : Int) : ℚ) ≤ _ ∧ _ ≤ ((max a b : Int) : ℚ) from
    ⟨le_roundRat_of_intCast_le hz.1, roundRat_le_of_le_intCast hz.2⟩
  split_ifs
  · exact ⟨by exact_mod_cast min_le_left a b, by exact_mod_cast le_max_left a b⟩
  · exact segQ_between_int hq1 hq2.le hka hkb

example : ∃ w, linSteps (-2 ^ 63) (fin ((45 * 1000 : Int) : ℚ))
      (toSteps ([] ++ (40, ((0 : Int) : ℚ)) :: (50, ((100 : Int) : ℚ)) :: [(60, 255)])) = .ok w ∧
      min 0 100 ≤ w ∧ w ≤ max 0 100 :=
  C06_steps_between _ [] [(60, 255)] 40 50 0 100
    (by simpa [exSteps] using exSteps_ok.1) (by simp)
    (div1000_exact (by norm_num)) (by norm_num) (by norm_num)

/-- An empty (non-nil) step map makes the Go code index `xValues[-1]`: panic (subject of C11). -/
theorem C06_steps_empty (indef : Int) (avg : F64) :
    linSteps indef avg [] = .panic "index-out-of-range" := rfl

theorem C06_fn_sum (indef : Int) {vs : List Int} (h : ∀ v ∈ vs, 0 ≤ v ∧ v ≤ 255)
    (hl : vs.length ≤ 2 ^ 40) : evalFn indef "sum" vs = .ok (min 255 vs.sum) :=
  evalFn_sum indef h hl

example : evalFn (-2 ^ 63) "sum" [100, 100, 100] = .ok 255 :=
  C06_fn_sum _ (by decide) (by norm_num)

theorem C06_fn_diff (indef : Int) :
    evalFn indef "difference" [] = .ok 0 ∧
    ∀ (v : Int) (vs : List Int), (∀ w ∈ v :: vs, 0 ≤ w ∧ w ≤ 255) → (v :: vs).length ≤ 2 ^ 40 →
      evalFn indef "difference" (v :: vs) = .ok (max 0 (v - vs.sum)) := by
  refine ⟨?_, fun _ _ h hl => evalFn_difference indef h hl⟩
  simp only [evalFn, String.reduceEq, if_false, if_true]
  rw [ofInt_zero, fmax_fin_fin, max_self, toInt_fin_zero]

example : evalFn (-2 ^ 63) "difference" [200, 50, 30] = .ok 120 :=
  (C06_fn_diff _).2 200 [50, 30] (by decide) (by norm_num)

/-- delta = greatest member − least member. -/
theorem C06_fn_delta (indef : Int) {vs : List Int} (h : ∀ v ∈ vs, 0 ≤ v ∧ v ≤ 255) (hne : vs ≠ []) :
    ∃ M m, IsMaxOf vs M ∧ IsMinOf vs m ∧ evalFn indef "delta" vs = .ok (M - m) := by
  match vs, hne, h with
  | v :: rest, _, h =>
    exact ⟨_, _, foldl_max_isMaxOf ⟨v, List.mem_cons_self, le_rfl⟩,
      foldl_min_isMinOf ⟨v, List.mem_cons_self, le_rfl⟩, evalFn_delta indef h⟩

example : ∃ M m, IsMaxOf [30, 200, 50] M ∧ IsMinOf [30, 200, 50] m ∧
    evalFn (-2 ^ 63) "delta" [30, 200, 50] = .ok (M - m) :=
  C06_fn_delta _ (by decide) (by simp)

/-- minimum = least member (255 for no members). -/
theorem C06_fn_min (indef : Int) {vs : List Int} (h : ∀ v ∈ vs, 0 ≤ v ∧ v ≤ 255) :
    (vs = [] → evalFn indef "minimum" vs = .ok 255) ∧
    (vs ≠ [] → ∃ m, IsMinOf vs m ∧ evalFn indef "minimum" vs = .ok m) := by
  constructor
  · rintro rfl; exact evalFn_minimum indef h
  · intro hne
    exact ⟨_, foldl_min_isMinOf ((List.exists_mem_of_ne_nil vs hne).imp fun v hv => ⟨hv, (h v hv).2⟩),
      evalFn_minimum indef h⟩

/-- maximum = greatest member (0 for no members). -/
theorem C06_fn_max (indef : Int) {vs : List Int} (h : ∀ v ∈ vs, 0 ≤ v ∧ v ≤ 255) :
    (vs = [] → evalFn indef "maximum" vs = .ok 0) ∧
    (vs ≠ [] → ∃ M, IsMaxOf vs M ∧ evalFn indef "maximum" vs = .ok M) := by
  constructor
  · rintro rfl; exact evalFn_maximum indef h
  · intro hne
    exact ⟨_, foldl_max_isMaxOf ((List.exists_mem_of_ne_nil vs hne).imp fun v hv => ⟨hv, (h v hv).1⟩),
      evalFn_maximum indef h⟩

example : ∃ m, IsMinOf [30, 200] m ∧ evalFn (-2 ^ 63) "minimum" [30, 200] = .ok m :=
  (C06_fn_min _ (by decide)).2 (by simp)
example : ∃ M, IsMaxOf [30, 200] M ∧ evalFn (-2 ^ 63) "maximum" [30, 200] = .ok M :=
  (C06_fn_max _ (by decide)).2 (by simp)

/-- average = integer mean (Go `/` on non-negative ints = floor). -/
theorem C06_fn_avg (indef : Int) {vs : List Int} (h : ∀ v ∈ vs, 0 ≤ v ∧ v ≤ 255)
    (hl : vs.length ≤ 2 ^ 40) (hne : vs ≠ []) :
    evalFn indef "average" vs = .ok (vs.sum / (vs.length : Int)) :=
  evalFn_average indef h hl hne

example : evalFn (-2 ^ 63) "average" [100, 101, 101] = .ok 100 :=
  C06_fn_avg _ (by decide) (by norm_num) (by simp)

/-- Range of all six function types over at least one member. -/
theorem C06_fn_range (indef : Int) {ty : String} (hty : IsFnType ty) {vs : List Int}
    (h : ∀ v ∈ vs, 0 ≤ v ∧ v ≤ 255) (hl : vs.length ≤ 2 ^ 40) (hne : vs ≠ []) :
    ∃ v, evalFn indef ty vs = .ok v ∧ 0 ≤ v ∧ v ≤ 255 :=
  evalFn_range indef hty h hl hne

example : ∃ v, evalFn (-2 ^ 63) "delta" [3, 250] = .ok v ∧ 0 ≤ v ∧ v ≤ 255 :=
  C06_fn_range _ (by unfold IsFnType; simp) (by decide) (by norm_num) (by simp)

/-- Without members, `delta` indexes `values[0]` and `average` divides by zero (subject of C11). -/
theorem C06_fn_empty_panics (indef : Int) :
    evalFn indef "delta" [] = .panic "index-out-of-range" ∧
    evalFn indef "average" [] = .panic "integer-divide-by-zero" := by
  constructor <;> simp only [evalFn, String.reduceEq, List.length_nil, if_false, if_true]

/-- A function curve evaluates to `evalFn` of the outcomes of its members … -/
theorem C06_nested (indef : Int) (sensors : SensorTable) (now : Int) (fuel : Nat)
    (tbl : CurveTable) (id : String) (c : Curve) (ty : String) (members : List String)
    (hget : tbl.get? id = some c) (hcfg : c.cfg = .function ty members) :
    (evalCurve indef sensors now (fuel + 1) tbl id).2 =
      (evalMembers indef sensors now fuel tbl members).2.bind (evalFn indef ty) :=
  evalCurve_function indef sensors now fuel tbl id c ty members hget hcfg

/-- … which are evaluated in order (any depth, via the fuel), each on the table left by the
    previous one; the first failing member aborts. -/
theorem C06_nested_members (indef : Int) (sensors : SensorTable) (now : Int) (fuel : Nat)
    (tbl : CurveTable) :
    evalMembers indef sensors now fuel tbl [] = (tbl, .ok []) ∧
    ∀ (m : String) (ms : List String),
      (evalMembers indef sensors now fuel tbl (m :: ms)).2 =
        (evalCurve indef sensors now fuel tbl m).2.bind (fun v =>
          (evalMembers indef sensors now fuel (evalCurve indef sensors now fuel tbl m).1 ms).2.bind
            (fun vs => .ok (v :: vs))) :=
  ⟨evalMembers_nil indef sensors now fuel tbl,
   fun m ms => evalMembers_cons indef sensors now fuel tbl m ms⟩

/-- **Every well-formed curve tree evaluates to a value in 0..255.**
    `WFCurve sensors (cfgOf tbl) fuel id` (defined in `Proofs/CurveTree.lean`): `id` is, with depth
    at most `fuel`, a tree whose leaves are linear curves satisfying the hypotheses of
    `C06_linear_range` / `C06_steps_range` with an existing sensor whose average is not NaN, and whose
    inner nodes are function curves of the six types with 1..2^40 members.
    No distinctness assumption on the table ids is needed; stored `value`s and PID memories are
    arbitrary. Evaluation leaves every curve's configuration untouched. -/
theorem C06_tree_range (indef : Int) (sensors : SensorTable) (now : Int) (fuel : Nat)
    (tbl : CurveTable) (id : String) (h : WFCurve sensors (cfgOf tbl) fuel id) :
    (∃ v, (evalCurve indef sensors now fuel tbl id).2 = .ok v ∧ 0 ≤ v ∧ v ≤ 255) ∧
    cfgOf (evalCurve indef sensors now fuel tbl id).1 = cfgOf tbl :=
  ⟨evalCurve_range indef sensors now fuel tbl id h, cfgOf_evalCurve indef sensors now fuel tbl id⟩

/-- non-vacuity: `max(sum(a, b), a)` over two linear leaves, depth 3. -/
def exTable : CurveTable :=
  [ { id := "a", cfg := .linear "s" 40 60 none },
    { id := "b", cfg := .linear "s" 0 0 (some (toSteps exSteps)) },
    { id := "f", cfg := .function "sum" ["a", "b"] },
    { id := "g", cfg := .function "maximum" ["f", "a"] } ]
def exSensors : SensorTable := [("s", { avg := fin 45000, value := .ok (fin 45000) })]

theorem exTable_wf : WFCurve exSensors (cfgOf exTable) 3 "g" := by
  have hs : exSensors.get? "s" = some { avg := fin 45000, value := .ok (fin 45000) } := rfl
  have ha : ∀ n, WFCurve exSensors (cfgOf exTable) (n + 1) "a" := fun n =>
    .minmax (mn := 40) (mx := 60) rfl (by norm_num) (by norm_num) hs (by simp)
  have hb : WFCurve exSensors (cfgOf exTable) 1 "b" :=
    .steps (x := 40) (y := 0) (rest := [(50, 100), (60, 255)]) rfl
      (StepsOK.of_flat exSteps_ok.1 exSteps_ok.2) hs (by simp)
  have hf : WFCurve exSensors (cfgOf exTable) 2 "f" :=
    .fn (ty := "sum") (members := ["a", "b"]) rfl (by simp [IsFnType]) (by simp) (by norm_num)
      (by simpa using ⟨ha 0, hb⟩)
  exact .fn (ty := "maximum") (members := ["f", "a"]) rfl (by simp [IsFnType]) (by simp)
    (by norm_num) (by simpa using ⟨hf, ha 1⟩)

example : ∃ v, (evalCurve (-2 ^ 63) exSensors 0 3 exTable "g").2 = .ok v ∧ 0 ≤ v ∧ v ≤ 255 :=
  (C06_tree_range _ _ _ _ _ _ exTable_wf).1

/-- By definition the PID curve returns `int(Coerce(loopValue, 0, 1) * 255)` with `loopValue` from
    `util.PidLoop.Loop(setPoint, measured/1000)` on the curve's own memory. -/
theorem C06_pid_def (indef : Int) (sensors : SensorTable) (now : Int) (fuel : Nat)
    (tbl : CurveTable) (id : String) (c : Curve) (sensor : String) (setPoint measured : F64)
    (sv : SensorView) (hget : tbl.get? id = some c) (hcfg : c.cfg = .pid sensor setPoint)
    (hs : sensors.get? sensor = some sv) (hv : sv.value = .ok measured) :
    (evalCurve indef sensors now (fuel + 1) tbl id).2
      = .ok (toInt indef (coerce (pidLoop c.pid setPoint (measured / ofRat 1000) now).2
          (ofInt 0) (ofInt 1) * ofInt 255)) :=
  congrArg Prod.snd (evalCurve_pid indef sensors now fuel tbl id c sensor setPoint measured sv
    hget hcfg hs hv)

/-- In range as soon as the loop value is not NaN (±Inf are clamped by `Coerce`). -/
theorem C06_pid_range (indef : Int) {loopValue : F64} (h : loopValue ≠ nan) :
    0 ≤ toInt indef (coerce loopValue (ofInt 0) (ofInt 1) * ofInt 255) ∧
    toInt indef (coerce loopValue (ofInt 0) (ofInt 1) * ofInt 255) ≤ 255 := by
  rw [ofInt_zero, ofInt_one, ofInt_255]
  obtain ⟨q, hq, q0, q1⟩ := coerce_range (lo := 0) (hi := 1) h (by norm_num)
  rw [hq, (toInt_unit_mul_255 indef q0 q1).1]
  exact (toInt_unit_mul_255 indef q0 q1).2

example : 0 ≤ toInt (-2 ^ 63) (coerce (fin (1/2)) (ofInt 0) (ofInt 1) * ofInt 255) ∧
    toInt (-2 ^ 63) (coerce (fin (1/2)) (ofInt 0) (ofInt 1) * ofInt 255) ≤ 255 :=
  C06_pid_range _ (by simp)

/-- `Coerce` does not stop NaN: a NaN loop value yields the implementation-defined `int(NaN)`. -/
theorem C06_pid_nan (indef : Int) :
    coerce nan (ofInt 0) (ofInt 1) = nan ∧
    toInt indef (coerce nan (ofInt 0) (ofInt 1) * ofInt 255) = indef :=
  ⟨coerce_nan _ _, pidValue_nan indef⟩

def IsFiniteF64 (x : F64) : Prop := ∃ q, x = fin q ∧ Rep64 q ∧ |q| < f64Huge

/-- The unconditional claim of C06 for the PID curve: finite gains, finite set point, finite
    readings, any (monotone) clock ⇒ two successive evaluations of a fresh PID curve both return a
    value in 0..255. -/
def C06_pid_range_statement : Prop :=
  ∀ (indef : Int) (p i d setPoint m₁ m₂ : F64) (now₁ now₂ : Int),
    IsFiniteF64 p → IsFiniteF64 i → IsFiniteF64 d → IsFiniteF64 setPoint →
    IsFiniteF64 m₁ → IsFiniteF64 m₂ → now₁ ≤ now₂ →
    ∃ v₁ v₂, pidTwice indef p i d setPoint m₁ m₂ now₁ now₂ = (.ok v₁, .ok v₂) ∧
      (0 ≤ v₁ ∧ v₁ ≤ 255) ∧ (0 ≤ v₂ ∧ v₂ ≤ 255)

theorem isFiniteF64_fin {q : ℚ} (h : Fin64 q) : IsFiniteF64 (fin q) := ⟨q, rfl, h⟩

theorem isFiniteF64_int {n : Int} (h : |n| ≤ 2 ^ 53) : IsFiniteF64 (fin (n : ℚ)) :=
  isFiniteF64_fin (fin64_intCast h)

theorem isFiniteF64_pow2_1000 : IsFiniteF64 (fin (pow2 1000)) ∧ IsFiniteF64 (fin (-pow2 1000)) :=
  have h : Fin64 (pow2 1000) :=
    ⟨rep64_pow2 1000 (by norm_num), by rw [abs_of_pos (pow2_pos _)]; exact pow2_lt (by norm_num)⟩
  ⟨isFiniteF64_fin h, isFiniteF64_fin (h.neg)⟩

theorem pidTwice_of_loop (indef : Int) {p i d setPoint m₁ m₂ : F64} {now₁ now₂ : Int}
    (h : pidTwiceLoop p i d setPoint m₁ m₂ now₁ now₂ = (fin 0, nan)) :
    pidTwice indef p i d setPoint m₁ m₂ now₁ now₂ = (.ok 0, .ok indef) := by
  rw [pidTwice_eq, h, pidValue_nan, pidValue_zero]

/-- Witness (a): gains 1/1/1, set point 50 °C, reading 40 °C, both evaluations at the SAME clock
    reading: `dt = 0`, derivative `0/0 = NaN`, the curve returns `int(NaN)`. -/
theorem C06_pid_witness_same_clock (indef : Int) :
    pidTwice indef (fin 1) (fin 1) (fin 1) (fin 50) (fin 40000) (fin 40000) 0 0
      = (.ok 0, .ok indef) :=
  pidTwice_of_loop indef (by decide +kernel)

/-- Witness (b): `P = 2^1000`, `I = -2^1000`, `D = 0`, reading `-2^1000` m°, evaluations one second
    apart: `P*e = +Inf`, `I*∫e = -Inf`, the sum is NaN, the curve returns `int(NaN)`. -/
theorem C06_pid_witness_inf_minus_inf (indef : Int) :
    pidTwice indef (fin (pow2 1000)) (fin (-pow2 1000)) (fin 0) (fin 50) (fin (-pow2 1000))
      (fin (-pow2 1000)) 0 1000000000 = (.ok 0, .ok indef) :=
  pidTwice_of_loop indef (by decide +kernel)

theorem not_pid_range_of_witness {p i d setPoint m₁ m₂ : F64} {now₁ now₂ : Int}
    (hp : IsFiniteF64 p) (hi : IsFiniteF64 i) (hd : IsFiniteF64 d) (hs : IsFiniteF64 setPoint)
    (h₁ : IsFiniteF64 m₁) (h₂ : IsFiniteF64 m₂) (hn : now₁ ≤ now₂)
    (hw : pidTwice (-2 ^ 63) p i d setPoint m₁ m₂ now₁ now₂ = (.ok 0, .ok (-2 ^ 63))) :
    ¬ C06_pid_range_statement := by
  intro h
  obtain ⟨v₁, v₂, he, _, hv2⟩ := h _ _ _ _ _ _ _ _ _ hp hi hd hs h₁ h₂ hn
  rw [hw] at he
  simp only [Prod.mk.injEq, Res.ok.injEq] at he
  omega

/-- **The unconditional PID range claim is false** (amd64 `int(NaN) = -2^63`). -/
theorem C06_pid_refuted : ¬ C06_pid_range_statement :=
  have f1 : IsFiniteF64 (fin 1) := isFiniteF64_fin fin64_one
  have f50 : IsFiniteF64 (fin 50) := by simpa using isFiniteF64_int (n := 50) (by norm_num)
  have fm : IsFiniteF64 (fin 40000) := by simpa using isFiniteF64_int (n := 40000) (by norm_num)
  not_pid_range_of_witness f1 f1 f1 f50 fm fm le_rfl (C06_pid_witness_same_clock _)

/-- The same refutation from witness (b), where the clock advances by one second. -/
theorem C06_pid_refuted' : ¬ C06_pid_range_statement :=
  have f50 : IsFiniteF64 (fin 50) := by simpa using isFiniteF64_int (n := 50) (by norm_num)
  have ⟨fP, fN⟩ := isFiniteF64_pow2_1000
  not_pid_range_of_witness fP fN (isFiniteF64_fin fin64_zero) f50 fN fN (by norm_num)
    (C06_pid_witness_inf_minus_inf _)

end Fan2go

#print axioms Fan2go.C06_linear_range
#print axioms Fan2go.C06_linear_ends
#print axioms Fan2go.C06_linear_ends_exact
#print axioms Fan2go.C06_linear_mid
#print axioms Fan2go.C06_linear_close
#print axioms Fan2go.C06_linear_nan
#print axioms Fan2go.C06_steps_range
#print axioms Fan2go.C06_steps_at_knots
#print axioms Fan2go.C06_steps_outside
#print axioms Fan2go.C06_steps_between
#print axioms Fan2go.C06_steps_empty
#print axioms Fan2go.C06_fn_sum
#print axioms Fan2go.C06_fn_diff
#print axioms Fan2go.C06_fn_delta
#print axioms Fan2go.C06_fn_min
#print axioms Fan2go.C06_fn_max
#print axioms Fan2go.C06_fn_avg
#print axioms Fan2go.C06_fn_range
#print axioms Fan2go.C06_fn_empty_panics
#print axioms Fan2go.C06_nested
#print axioms Fan2go.C06_nested_members
#print axioms Fan2go.C06_tree_range
#print axioms Fan2go.C06_pid_def
#print axioms Fan2go.C06_pid_range
#print axioms Fan2go.C06_pid_nan
#print axioms Fan2go.C06_pid_witness_same_clock
#print axioms Fan2go.C06_pid_witness_inf_minus_inf
#print axioms Fan2go.C06_pid_refuted
#print axioms Fan2go.C06_pid_refuted'
