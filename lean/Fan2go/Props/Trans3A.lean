/-
  What each field of `modelOps` does on a world, and the ties of the controller's small methods;
  `ensureNoThirdPartyIsMessingWithUs`, `calculateTargetPwm`, `setPwm` and `UpdateFanSpeed` are in Props/Trans3B.lean.
  The fields' equations stand under two families of names, `T3A.ops_*` and `B3.o_*`, which share seventeen statements.
  `get_stats_MinPwmOffset`, which no method reads, has no equation.
-/
import Fan2go.Props.Trans3Ops
import Fan2go.Props.Trans2FindClosest
import Fan2go.Props.GoMRun
import Fan2go.Props.GoSemLemmas
import Fan2go.Proofs.ControllerCases
namespace Fan2go
open F64

namespace T3A

theorem run_bind {σ α β : Type} (m : GoM σ α) (f : α → GoM σ β) (s : σ) :
    (m >>= f) s = match m s with
      | (.ok a, s') => f a s'
      | (.err e, s') => (.err e, s')
      | (.panic p, s') => (.panic p, s') := GoM.run_bind m f s
theorem run_pure {σ α : Type} (a : α) (s : σ) : (pure a : GoM σ α) s = (.ok a, s) := GoM.run_pure a s
theorem run_liftRes {σ α : Type} (r : Res α) (s : σ) : (Go.liftRes r : GoM σ α) s = (r, s) := GoM.run_liftRes r s
theorem run_deref_some {σ α : Type} (a : α) (s : σ) : (Go.deref (some a) : GoM σ α) s = (.ok a, s) :=
  GoM.run_deref_some a s

variable (indef : Int) (curve : Res Int) (now : Int) (w : World)

theorem ops_Supports0 :
    (modelOps indef curve now).fan_Supports 0 w = (.ok (supports w.fan w.dev .pwmSensor), w) := rfl
theorem ops_Supports1 :
    (modelOps indef curve now).fan_Supports 1 w = (.ok (supports w.fan w.dev .rpmSensor), w) := rfl
theorem ops_Supports2 :
    (modelOps indef curve now).fan_Supports 2 w = (.ok (supports w.fan w.dev .controlMode), w) := rfl
theorem ops_Supports_other {k : Int} (h0 : k ≠ 0) (h1 : k ≠ 1) (h2 : k ≠ 2) :
    (modelOps indef curve now).fan_Supports k w = (.ok false, w) := by
  show (match featureOf k with | some ft => _ | none => _) = _
  simp [featureOf, h0, h1, h2]
theorem ops_GetPwm : (modelOps indef curve now).fan_GetPwm w = goRead 0 (fanGetPwm w.dev) w := rfl
theorem ops_SetPwm (v : Int) :
    (modelOps indef curve now).fan_SetPwm v w
      = (.ok (t3ErrOf (fanSetPwm w.dev v).2), { w with dev := (fanSetPwm w.dev v).1 }) := rfl
theorem ops_GetMinPwm : (modelOps indef curve now).fan_GetMinPwm w = (.ok w.fan.getMin, w) := rfl
theorem ops_GetRpm : (modelOps indef curve now).fan_GetRpm w = modelGetRpm w := rfl
theorem ops_GetRpmAvg : (modelOps indef curve now).fan_GetRpmAvg w = (.ok w.fan.getRpmAvg, w) := rfl
theorem ops_SetRpmAvg (x : F64) :
    (modelOps indef curve now).fan_SetRpmAvg x w = (.ok (), { w with fan := w.fan.setRpmAvg indef x }) := rfl
theorem ops_SetPwmEnabled (v : Int) :
    (modelOps indef curve now).fan_SetPwmEnabled v w
      = (.ok (t3ErrOf (setPwmEnabled w.fan w.dev v).2.1), { w with dev := (setPwmEnabled w.fan w.dev v).1 }) := rfl
theorem ops_UpdateCurve (p : Int) (x : F64) :
    (modelOps indef curve now).fan_UpdateFanRpmCurveValue p x w = modelUpdateCurveValue p x w := rfl
theorem ops_get_lastSet : (modelOps indef curve now).get_lastSetPwm w = (.ok w.ctl.lastSet, w) := rfl
theorem ops_get_pwmMap : (modelOps indef curve now).get_pwmMap w = (.ok w.ctl.pwmMap, w) := rfl
theorem ops_get_distinct :
    (modelOps indef curve now).get_pwmValuesWithDistinctTarget w = (.ok w.ctl.distinct, w) := rfl
theorem ops_get_offset : (modelOps indef curve now).get_minPwmOffset w = (.ok w.ctl.offset, w) := rfl
theorem ops_set_offset (v : Int) :
    (modelOps indef curve now).set_minPwmOffset v w
      = (.ok (), { w with ctl := { w.ctl with offset := v } }) := rfl
theorem ops_set_statsOffset (v : Int) :
    (modelOps indef curve now).set_stats_MinPwmOffset v w = (.ok (), w) := rfl
theorem ops_get_incr :
    (modelOps indef curve now).get_stats_IncreasedMinPwmCount w = (.ok w.ctl.increasedCount, w) := rfl
theorem ops_set_incr (v : Int) :
    (modelOps indef curve now).set_stats_IncreasedMinPwmCount v w
      = (.ok (), { w with ctl := { w.ctl with increasedCount := v } }) := rfl
theorem ops_get_origPwm : (modelOps indef curve now).get_originalPwmValue w = (.ok w.ctl.origPwm, w) := rfl
theorem ops_get_origMode : (modelOps indef curve now).get_originalPwmEnabled w = (.ok w.ctl.origMode, w) := rfl
theorem ops_get_window : (modelOps indef curve now).get_cfg_RpmRollingWindowSize w = (.ok w.rpmWindow, w) := rfl

attribute [gom] ops_Supports0 ops_Supports1 ops_Supports2 ops_Supports_other ops_GetPwm ops_SetPwm ops_GetMinPwm
  ops_GetRpm ops_GetRpmAvg ops_SetRpmAvg ops_SetPwmEnabled ops_UpdateCurve ops_get_lastSet ops_get_pwmMap
  ops_get_distinct ops_get_offset ops_set_offset ops_set_statsOffset ops_get_incr ops_set_incr ops_get_origPwm
  ops_get_origMode ops_get_window

end T3A

namespace B3
variable (indef : Int) (curve : Res Int) (now : Int)

theorem o_sup0 (w : World) : (modelOps indef curve now).fan_Supports 0 w = (.ok (supports w.fan w.dev .pwmSensor), w) := rfl
theorem o_sup1 (w : World) : (modelOps indef curve now).fan_Supports 1 w = (.ok (supports w.fan w.dev .rpmSensor), w) := rfl
theorem o_sup2 (w : World) : (modelOps indef curve now).fan_Supports 2 w = (.ok (supports w.fan w.dev .controlMode), w) := rfl
theorem o_getPwm (w : World) : (modelOps indef curve now).fan_GetPwm w = goRead 0 (fanGetPwm w.dev) w := rfl
theorem o_setPwm (v : Int) (w : World) : (modelOps indef curve now).fan_SetPwm v w =
    (.ok (t3ErrOf (fanSetPwm w.dev v).2), { w with dev := (fanSetPwm w.dev v).1 }) := rfl
theorem o_getMin (w : World) : (modelOps indef curve now).fan_GetMinPwm w = (.ok w.fan.getMin, w) := rfl
theorem o_getMax (w : World) : (modelOps indef curve now).fan_GetMaxPwm w = (.ok w.fan.getMax, w) := rfl
theorem o_getRpmAvg (w : World) : (modelOps indef curve now).fan_GetRpmAvg w = (.ok w.fan.getRpmAvg, w) := rfl
theorem o_setRpmAvg (x : F64) (w : World) : (modelOps indef curve now).fan_SetRpmAvg x w =
    (.ok (), { w with fan := w.fan.setRpmAvg indef x }) := rfl
theorem o_neverStop (w : World) : (modelOps indef curve now).fan_ShouldNeverStop w = (.ok w.fan.neverStop, w) := rfl
theorem o_setEnabled (v : Int) (w : World) : (modelOps indef curve now).fan_SetPwmEnabled v w =
    (.ok (t3ErrOf (setPwmEnabled w.fan w.dev v).2.1), { w with dev := (setPwmEnabled w.fan w.dev v).1 }) := rfl
theorem o_curve (w : World) : (modelOps indef curve now).curve_Evaluate w = goRead 0 curve w := rfl
theorem o_cycle (t c : Int) (w : World) : (modelOps indef curve now).controlLoop_Cycle t c w =
    (.ok (w.ctl.loop.cycle indef t c now).2,
      { w with ctl := { w.ctl with loop := (w.ctl.loop.cycle indef t c now).1 } }) := rfl
theorem o_getLast (w : World) : (modelOps indef curve now).get_lastSetPwm w = (.ok w.ctl.lastSet, w) := rfl
theorem o_setLast (v : Option Int) (w : World) : (modelOps indef curve now).set_lastSetPwm v w =
    (.ok (), { w with ctl := { w.ctl with lastSet := v } }) := rfl
theorem o_getMap (w : World) : (modelOps indef curve now).get_pwmMap w = (.ok w.ctl.pwmMap, w) := rfl
theorem o_getDistinct (w : World) : (modelOps indef curve now).get_pwmValuesWithDistinctTarget w = (.ok w.ctl.distinct, w) := rfl
theorem o_getOffset (w : World) : (modelOps indef curve now).get_minPwmOffset w = (.ok w.ctl.offset, w) := rfl
theorem o_setOffset (v : Int) (w : World) : (modelOps indef curve now).set_minPwmOffset v w =
    (.ok (), { w with ctl := { w.ctl with offset := v } }) := rfl
theorem o_getUnexp (w : World) : (modelOps indef curve now).get_stats_UnexpectedPwmValueCount w = (.ok w.ctl.unexpectedCount, w) := rfl
theorem o_setUnexp (v : Int) (w : World) : (modelOps indef curve now).set_stats_UnexpectedPwmValueCount v w =
    (.ok (), { w with ctl := { w.ctl with unexpectedCount := v } }) := rfl
theorem o_setStatsOffset (v : Int) (w : World) : (modelOps indef curve now).set_stats_MinPwmOffset v w = (.ok (), w) := rfl
theorem o_getIncr (w : World) : (modelOps indef curve now).get_stats_IncreasedMinPwmCount w = (.ok w.ctl.increasedCount, w) := rfl
theorem o_setIncr (v : Int) (w : World) : (modelOps indef curve now).set_stats_IncreasedMinPwmCount v w =
    (.ok (), { w with ctl := { w.ctl with increasedCount := v } }) := rfl

-- the other seventeen are in `gom` under their `T3A.ops_*` names
attribute [gom] o_getMax o_neverStop o_curve o_cycle o_setLast o_getUnexp o_setUnexp

end B3

namespace T3A
variable (indef : Int) (curve : Res Int) (now : Int) (w : World)

theorem go_mapGetOpt_eq (c : Ctl) (k : Int) : Go.mapGetOpt c.pwmMap k = applyPwmMapping c k := by
  unfold Go.mapGetOpt applyPwmMapping
  cases c.pwmMap
  · rfl
  · exact Go.mapGet_eq _ _

theorem errOf_unit_eq_none (r : Res Unit) : t3ErrOf r = none ↔ r = .ok () := by
  cases r <;> simp [t3ErrOf]

/-- `getPwm` returns `0` next to an error -/
theorem getPwm_eq :
    Generated3.ctl_getPwm indef (modelOps indef curve now) w = goRead 0 (ctlGetPwm w) w := by
  unfold Generated3.ctl_getPwm ctlGetPwm
  simp only [gom]
  cases supports w.fan w.dev .pwmSensor
  · cases w.ctl.lastSet <;> simp [GoM.run_deref_some, goRead]
  · simp

theorem goRead_agrees {σ : Type} (d : Int) (r : Res Int) (s : σ) :
    ∃ res, goRead d r s = (res, s) ∧ (match r with
      | .panic p => res = .panic p
      | r => ∃ g, res = .ok g ∧ Agrees g r) := by
  cases r with
  | ok v => exact ⟨_, rfl, _, rfl, rfl⟩
  | err e => exact ⟨_, rfl, _, rfl, rfl⟩
  | panic p => exact ⟨_, rfl, rfl⟩

end T3A

open T3A

variable (indef : Int) (curve : Res Int) (now : Int) (w : World)

theorem trans3_getPwm :
    ∃ g, Generated3.ctl_getPwm indef (modelOps indef curve now) w = (.ok g, w) ∧ Agrees g (ctlGetPwm w) := by
  rw [getPwm_eq]
  rcases Res.ok_or_err (ctlGetPwm_no_panic w) with ⟨v, hv⟩ | ⟨e, he⟩
  · rw [hv]; exact ⟨_, rfl, rfl⟩
  · rw [he]; exact ⟨_, rfl, rfl⟩

theorem trans3_trySetManualPwm :
    Generated3.ctl_trySetManualPwm indef (modelOps indef curve now) w
      = (.ok (t3ErrOf (trySetManualPwm w.fan w.dev).2.1), { w with dev := (trySetManualPwm w.fan w.dev).1 }) := by
  unfold Generated3.ctl_trySetManualPwm trySetManualPwm
  simp only [gom]
  cases supports w.fan w.dev .controlMode
  · simp [t3ErrOf]
  · rcases setPwmEnabled w.fan w.dev 1 with ⟨d1, r1, o1⟩
    cases r1 with
    | ok u =>
      cases u
      simp [t3ErrOf]
    | err _ | panic _ =>
      rcases h2 : setPwmEnabled w.fan d1 0 with ⟨d2, r2, o2⟩
      cases r2 <;> simp [t3ErrOf, h2]

theorem trans3_findClosestDistinctTarget (t : Int) :
    Generated3.ctl_findClosestDistinctTarget indef (modelOps indef curve now) t w = (closestDistinct w.ctl t, w) := by
  unfold Generated3.ctl_findClosestDistinctTarget closestDistinct
  simp only [gom, trans2_util_FindClosest]

theorem trans3_applyPwmMapping (k : Int) :
    Generated3.ctl_applyPwmMapping indef (modelOps indef curve now) k w = (.ok (applyPwmMapping w.ctl k), w) := by
  unfold Generated3.ctl_applyPwmMapping
  simp only [gom, go_mapGetOpt_eq]

theorem trans3_increaseMinPwmOffset :
    Generated3.ctl_increaseMinPwmOffset indef (modelOps indef curve now) w
      = (.ok (), { w with ctl := { w.ctl with offset := w.ctl.offset + 1,
                                              increasedCount := w.ctl.increasedCount + 1 } }) := by
  unfold Generated3.ctl_increaseMinPwmOffset
  simp only [gom]

theorem trans3_measureRpm :
    Generated3.ctl_measureRpm indef (modelOps indef curve now) w = (.ok (), measureRpm indef w) := by
  unfold Generated3.ctl_measureRpm measureRpm
  -- neither read panics, and the method only logs an error (no early return): with both outcomes known the `do` block
  -- runs through
  rcases Res.ok_or_err (ctlGetPwm_no_panic w) with ⟨p, hp⟩ | ⟨e, hp⟩ <;>
    rcases fanGetRpm_cases w.fan w.dev with ⟨v, hv⟩ | ⟨e', hv⟩ <;>
    simp only [gom, getPwm_eq, hp, modelGetRpm, hv, goRead, trans_util_UpdateSimpleMovingAvg, modelUpdateCurveValue]
  -- left are the model's `match`es on the kind of fan, the same on both sides
  all_goals cases hk : w.fan.kind <;> simp only [hk, FanSt.setRpmAvg, FanSt.getRpmAvg] <;> rfl

theorem trans3_restorePwmEnabled :
    Generated3.ctl_restorePwmEnabled indef (modelOps indef curve now) w = (.ok (), (restorePwmEnabled w).1) := by
  unfold Generated3.ctl_restorePwmEnabled restorePwmEnabled
  simp only [gom, ite_self]
  rcases fanSetPwm w.dev w.ctl.origPwm with ⟨d1, r1⟩
  simp only []  -- projections of the pair `(d1, r1)`
  cases supports w.fan d1 .controlMode
  · simp
  · by_cases hm : w.ctl.origMode = 1
    · simp [hm]
    · rcases h2 : setPwmEnabled w.fan d1 w.ctl.origMode with ⟨d2, r2, o2⟩
      cases r2 <;> simp [hm, h2, t3ErrOf]

end Fan2go

#print axioms Fan2go.trans3_getPwm
#print axioms Fan2go.trans3_trySetManualPwm
#print axioms Fan2go.trans3_findClosestDistinctTarget
#print axioms Fan2go.trans3_applyPwmMapping
#print axioms Fan2go.trans3_increaseMinPwmOffset
#print axioms Fan2go.trans3_measureRpm
#print axioms Fan2go.trans3_restorePwmEnabled
