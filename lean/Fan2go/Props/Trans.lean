/-
  `Fan2go/Generated/Trans.lean` is rewritten on every check run by go/transgen, a small Go -> Lean translator applied to
  /repo's CURRENT sources (whole pure functions, or statements located syntactically inside a larger function). Each
  theorem below states generated definition = hand-written model definition: a source change that alters one of these
  functions semantically breaks its `trans_*` theorem at `lake build`, whatever the random generators of the
  correspondence streams happen to exercise. (A harmless rewrite may break it too: the theorem then has to be re-proved.)
-/
import Fan2go.Generated.Trans
import Fan2go.Model.Controller
import Fan2go.Model.Curves
import Fan2go.Props.GoSemLemmas
namespace Fan2go
open F64

theorem trans_util_Coerce (indef : Int) : Generated.util_Coerce indef = coerce := rfl

theorem trans_util_Ratio (indef : Int) : Generated.util_Ratio indef = ratio := rfl

theorem trans_util_UpdateSimpleMovingAvg (indef : Int) :
    Generated.util_UpdateSimpleMovingAvg indef = updateSimpleMovingAvg := by
  funext oldAvg n newValue
  simp only [Generated.util_UpdateSimpleMovingAvg, updateSimpleMovingAvg, Go.ofInt_one]

theorem trans_util_getClosest (indef : Int) : Generated.util_getClosest indef = getClosest := rfl

/-- the clamp `if target > fans.MaxPwmValue {…} else if target < fans.MinPwmValue {…}` of `calculateTargetPwm`
    (internal/controller/controller.go); the next four theorems are about statements of the same function -/
theorem trans_ctl_clamp (indef : Int) : Generated.ctl_clamp indef = clamp255 := rfl

/-- the range mapping `target = minPwm + int((float64(target)/fans.MaxPwmValue)*(float64(maxPwm)-float64(minPwm)))` -/
theorem trans_ctl_rescale (indef : Int) : Generated.ctl_rescale indef = rescale indef := rfl

/-- the stall test `int(avgRpm) <= 0`; the model (`Model/Controller.lean`, `calculateTargetPwm`) spells it
    `decide (toInt indef w.fan.getRpmAvg ≤ 0)` -/
theorem trans_ctl_stallCond (indef : Int) (avgRpm : F64) :
    Generated.ctl_stallCond indef avgRpm = (toInt indef avgRpm ≤ 0) := rfl

/-- the give-up test `target >= maxPwm`; the model spells it `if target ≥ maxPwm then … "stalled-at-max"` -/
theorem trans_ctl_stallAtMax (indef : Int) (target maxPwm : Int) :
    Generated.ctl_stallAtMax indef target maxPwm = (target ≥ maxPwm) := rfl

/-- `f.lastSetPwm != nil && *f.lastSetPwm == target`; the model spells it `w.ctl.lastSet == some target` -/
theorem trans_ctl_lastSetEqualsTarget (indef : Int) (lastSet : Option Int) (target : Int) :
    Generated.ctl_lastSetEqualsTarget indef lastSet target = ((lastSet == some target) = true) := by
  cases lastSet <;> simp [Generated.ctl_lastSetEqualsTarget]

/-- `(*DirectControlLoop).Cycle` (clock bookkeeping skipped, see the generated file) -/
theorem trans_DirectControlLoop_Cycle (indef : Int) :
    Generated.DirectControlLoop_Cycle indef = directCycle indef := by
  funext m target current
  simp only [Generated.DirectControlLoop_Cycle, trans_util_Coerce]
  cases m <;> rfl

/-- `(*PidControlLoop).Cycle`: `l.pidLoop.Loop` is a function parameter of the generated definition; instantiated
    with the model's `pidLoop` (second component) it is the second component of the model's `pidCycle`. -/
theorem trans_PidControlLoop_Cycle (indef : Int) (st : PidSt) (target current now : Int) :
    Generated.PidControlLoop_Cycle indef (fun t m => (pidLoop st t m now).2) target current
      = (pidCycle indef st target current now).2 := by
  simp only [Generated.PidControlLoop_Cycle, trans_util_Coerce]
  rfl

/-- the min/max branch of `(*LinearSpeedCurve).Evaluate` -/
theorem trans_LinearSpeedCurve_minMax (indef : Int) (avg : F64) (mn mx : Int) :
    Generated.LinearSpeedCurve_minMax indef mn mx avg = linMinMax indef avg mn mx := rfl

theorem trans_HwMonFan_GetMinPwm (indef : Int) (f : FanSt) (hk : f.kind = .hwmon) :
    Generated.HwMonFan_GetMinPwm indef f.neverStop f.minP = f.getMin := by
  simp only [Generated.HwMonFan_GetMinPwm, FanSt.getMin, hk]
  cases f.neverStop <;> cases f.minP <;> rfl

theorem trans_HwMonFan_GetStartPwm (indef : Int) (f : FanSt) (hk : f.kind = .hwmon) :
    Generated.HwMonFan_GetStartPwm indef f.startP = f.getStart := by
  simp only [Generated.HwMonFan_GetStartPwm, FanSt.getStart, hk]
  cases f.startP <;> rfl

theorem trans_HwMonFan_GetMaxPwm (indef : Int) (f : FanSt) (hk : f.kind = .hwmon) :
    Generated.HwMonFan_GetMaxPwm indef f.maxP = f.getMax := by
  simp only [Generated.HwMonFan_GetMaxPwm, FanSt.getMax, hk]
  cases f.maxP <;> rfl

/-- `(*HwMonFan).SetMinPwm`: the generated definition is the value of `fan.MinPwm` after the call; the model's
    setter changes that field and nothing else. -/
theorem trans_HwMonFan_SetMinPwm (indef : Int) (f : FanSt) (hk : f.kind = .hwmon) (pwm : Int) (force : Bool) :
    f.setMin pwm force = { f with minP := Generated.HwMonFan_SetMinPwm indef f.minP f.cfgMin pwm force } := by
  -- `f` is taken apart first: the setter's `else f` and the record update agree by eta only. The pattern goes by the
  -- order of `FanSt`'s fields (`kind`, `neverStop`, `cfgMin`, `cfgStart`, `cfgMax`, …), here and in the next two proofs
  obtain ⟨_, _, cm⟩ := f
  cases hk
  cases cm <;> cases force <;> rfl

theorem trans_HwMonFan_SetStartPwm (indef : Int) (f : FanSt) (hk : f.kind = .hwmon) (pwm : Int) (force : Bool) :
    f.setStart pwm force = { f with startP := Generated.HwMonFan_SetStartPwm indef f.startP f.cfgStart pwm force } := by
  obtain ⟨_, _, _, cs⟩ := f
  cases hk
  cases cs <;> cases force <;> rfl

theorem trans_HwMonFan_SetMaxPwm (indef : Int) (f : FanSt) (hk : f.kind = .hwmon) (pwm : Int) (force : Bool) :
    f.setMax pwm force = { f with maxP := Generated.HwMonFan_SetMaxPwm indef f.maxP f.cfgMax pwm force } := by
  obtain ⟨_, _, _, _, cx⟩ := f
  cases hk
  cases cx <;> cases force <;> rfl

example : Generated.ctl_clamp 0 300 = 255 ∧ Generated.ctl_clamp 0 (-3) = 0 ∧ Generated.ctl_clamp 0 77 = 77 := by decide
example : Generated.util_getClosest 0 10 20 15 = 20 ∧ Generated.util_getClosest 0 10 20 14 = 10 := by decide
example : Generated.HwMonFan_GetMinPwm 0 true (some 40) = 40 ∧ Generated.HwMonFan_GetMinPwm 0 false (some 40) = 0 := by decide

end Fan2go

#print axioms Fan2go.trans_util_Coerce
#print axioms Fan2go.trans_util_Ratio
#print axioms Fan2go.trans_util_UpdateSimpleMovingAvg
#print axioms Fan2go.trans_util_getClosest
#print axioms Fan2go.trans_ctl_clamp
#print axioms Fan2go.trans_ctl_rescale
#print axioms Fan2go.trans_ctl_stallCond
#print axioms Fan2go.trans_ctl_stallAtMax
#print axioms Fan2go.trans_ctl_lastSetEqualsTarget
#print axioms Fan2go.trans_DirectControlLoop_Cycle
#print axioms Fan2go.trans_PidControlLoop_Cycle
#print axioms Fan2go.trans_LinearSpeedCurve_minMax
#print axioms Fan2go.trans_HwMonFan_GetMinPwm
#print axioms Fan2go.trans_HwMonFan_GetStartPwm
#print axioms Fan2go.trans_HwMonFan_GetMaxPwm
#print axioms Fan2go.trans_HwMonFan_SetMinPwm
#print axioms Fan2go.trans_HwMonFan_SetStartPwm
#print axioms Fan2go.trans_HwMonFan_SetMaxPwm
