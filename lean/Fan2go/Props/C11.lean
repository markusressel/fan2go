/-
  C11 "A configuration that validates can be run".

  Model: `Model/Config.lean` (`validateConfig`, check by check after validation.go; the Tarjan
  SCC test is modelled by its specification `hasCycle`) and `Model/Curves.lean` (`evalCurve`).
  Tie to the code: stream `cfg` (go/harness/config.go vs Driver/ConfigStream.lean).

  Result (for the tree with the fixes 6a042ff "reject function curves without members and linear
  curves with empty steps" and ffb7e7d "reject an empty controlAlgorithm block"): the property
  HOLDS. Acceptance implies unique ids, one backend per entry, resolvable references, an acyclic
  member graph, non-empty member lists / step maps and an instantiable control algorithm
  (`C11_sound_*`); every curve of an accepted configuration evaluates without a panic and within
  the recursion budget (`C11_eval_total`); every configuration assembled from the documented forms
  is accepted (`C11_complete`).

  Before the fixes the validator accepted `function: {type: average|delta, curves: []}` and
  `linear: {steps: []}`, whose evaluation panics (integer divide by zero / index out of range), and
  `controlAlgorithm: {}`, which left the controller's control loop nil. The three configurations
  are kept below (`cexAverage`, `cexDelta`, `cexSteps`): they are rejected, and evaluating them would
  panic.
-/
import Mathlib.Algebra.Order.Ring.Rat -- only for the `example` on the default PID gains (`simp` on `ℚ`)
import Fan2go.Proofs.ConfigEval
namespace Fan2go
namespace C11
open Fan2go.Cfg Relation

/-- accepted ⇒ fan ids, sensor ids and curve ids are each pairwise distinct -/
theorem C11_sound_ids (c : Configuration) (permOk : Bool)
    (h : validateConfig c permOk = .ok ()) : uniqueIds c := (accepted h).ids

/-- accepted ⇒ every sensor, curve and fan entry has exactly one sub-configuration -/
theorem C11_sound_backend (c : Configuration) (permOk : Bool)
    (h : validateConfig c permOk = .ok ()) : oneBackend c := (accepted h).oneBackend

/-- accepted ⇒ every linear/pid sensor id, every function member id and every fan curve id
    names an existing entry -/
theorem C11_sound_refs (c : Configuration) (permOk : Bool)
    (h : validateConfig c permOk = .ok ()) : refsResolve c := (accepted h).refsResolve

/-- accepted ⇒ no function curve lists itself (the explicit check) -/
theorem C11_sound_no_self (c : Configuration) (permOk : Bool)
    (h : validateConfig c permOk = .ok ()) : NoSelfRef c := (accepted h).noSelfRef

/-- The cycle criterion the model uses in place of Tarjan's algorithm, as a graph statement:
    `hasCycle g` ⇔ two DISTINCT vertices reach each other (⇔ some SCC has more than one vertex). -/
theorem C11_cycle_criterion (g : Graph) :
    hasCycle g = true ↔ ∃ u v, u ≠ v ∧ TransGen (Edge g) u v ∧ TransGen (Edge g) v u :=
  hasCycle_iff g

/-- accepted ⇒ no function curve reaches itself through members, in any number of steps
    (self loops by the explicit check, longer cycles by the SCC criterion). General: all graphs. -/
theorem C11_sound_acyclic (c : Configuration) (permOk : Bool)
    (h : validateConfig c permOk = .ok ()) : Acyclic c := (accepted h).acyclic

/-- The promise behind "Config looks good": an accepted configuration can be instantiated and
    every curve evaluated, for all sensor tables that define every sensor entry with finite values,
    within the recursion budget `number of curves + 1`, without a panic. -/
def C11_eval_total_statement : Prop :=
  ∀ (c : Configuration) (permOk : Bool), validateConfig c permOk = .ok () →
    ∀ (indef : Int) (sensors : SensorTable) (now : Int), SensorsDefined c sensors →
      ∀ cc ∈ c.curves, ∀ site,
        (evalCurve indef sensors now (c.curves.length + 1) (toCurveTable c) cc.id).2 ≠ .panic site

def oneSensor : List SensorConfig := [{ id := "s", file := true }]
def oneFan (curve : String) : List FanConfig := [{ id := "fan", curve := curve, file := some false }]

/-- `function: {type: average, curves: []}` (or `curves:` absent) -/
def cexAverage : Configuration :=
  { sensors := oneSensor, fans := oneFan "c",
    curves := [{ id := "c", function := some { type := "average", curves := [] } }] }

/-- `function: {type: delta, curves: []}` -/
def cexDelta : Configuration :=
  { sensors := oneSensor, fans := oneFan "c",
    curves := [{ id := "c", function := some { type := "delta", curves := [] } }] }

/-- `linear: {sensor: s, steps: []}`: decodes to an empty NON-nil map -/
def cexSteps : Configuration :=
  { sensors := oneSensor, fans := oneFan "c",
    curves := [{ id := "c", linear := some { sensor := "s", steps := some [] } }] }

def cexSensors : SensorTable := [("s", { avg := F64.zero, value := .ok F64.zero })]

/-- rejected by the two checks the fix added to `validateCurves` -/
theorem cexAverage_rejected : validateConfig cexAverage true = .error (.curveNoMembers "c") := rfl
theorem cexDelta_rejected : validateConfig cexDelta true = .error (.curveNoMembers "c") := rfl
theorem cexSteps_rejected : validateConfig cexSteps true = .error (.curveEmptySteps "c") := rfl

/-- the sensor table of the three counterexamples meets the hypothesis of `C11_eval_total`: of its
    hypotheses only acceptance fails for them -/
theorem cexSensors_defined (c : Configuration) (h : c.sensors = oneSensor) :
    SensorsDefined c cexSensors := by
  intro s hs
  rw [h] at hs
  simp only [oneSensor, List.mem_singleton] at hs
  subst hs
  exact ⟨_, rfl, rfl, _, rfl, rfl⟩

theorem cexAverage_panics (indef now : Int) :
    (evalCurve indef cexSensors now 2 (toCurveTable cexAverage) "c").2
      = .panic "integer-divide-by-zero" := by
  simp [evalCurve, evalMembers, evalFn, toCurveTable, cexAverage, toCurve, CurveTable.get?]

theorem cexDelta_panics (indef now : Int) :
    (evalCurve indef cexSensors now 2 (toCurveTable cexDelta) "c").2
      = .panic "index-out-of-range" := by
  simp [evalCurve, evalMembers, evalFn, toCurveTable, cexDelta, toCurve, CurveTable.get?]

theorem cexSteps_panics (indef now : Int) :
    (evalCurve indef cexSensors now 2 (toCurveTable cexSteps) "c").2
      = .panic "index-out-of-range" := by
  simp [evalCurve, toCurveTable, cexSteps, toCurve, CurveTable.get?, SensorTable.get?, cexSensors,
    linSteps, interp, bind, Res.bind]

/-- accepted ⇒ every function curve has ≥ 1 member and no linear curve has an empty step map
    (the two checks added by the fix) -/
theorem C11_sound_nonempty (c : Configuration) (permOk : Bool)
    (h : validateConfig c permOk = .ok ()) : FunctionsNonempty c ∧ NoEmptySteps c :=
  ⟨(accepted h).functionsNonempty, (accepted h).noEmptySteps⟩

/-- accepted ⇒ every fan's `controlAlgorithm`, if present, has `direct` or `pid` set: the control
    loop can be instantiated (`initializeFanControllers` never leaves it nil) -/
theorem C11_sound_algo (c : Configuration) (permOk : Bool)
    (h : validateConfig c permOk = .ok ()) : AlgoInstantiable c := (accepted h).algoInstantiable

/-- The run half: every curve of every accepted configuration evaluates, for
    all sensor tables defining every sensor entry with finite values, without a panic and within
    the recursion budget `number of curves + 1`. -/
theorem C11_eval_total : C11_eval_total_statement :=
  fun c permOk h indef sensors now hs cc hcc =>
    (eval_no_panic_of_accepted c permOk h indef sensors now hs.present _ rfl cc hcc).2

/-- The same with the two conditions as explicit hypotheses (every function curve has at least one
    member, no linear curve has an empty non-nil step map): the form that holds of a validator without
    the two checks. Neither hypothesis is used: both follow from acceptance (`C11_sound_nonempty`). -/
theorem C11_eval_total_partial (c : Configuration) (permOk : Bool)
    (h : validateConfig c permOk = .ok ())
    (_hne : FunctionsNonempty c) (_hst : NoEmptySteps c)
    (indef : Int) (sensors : SensorTable) (now : Int) (hs : SensorsDefined c sensors) :
    ∀ cc ∈ c.curves, ∀ site,
      (evalCurve indef sensors now (c.curves.length + 1) (toCurveTable c) cc.id).2 ≠ .panic site :=
  C11_eval_total c permOk h indef sensors now hs

/-- every configuration assembled only from the documented forms (`Documented`: three sensor
    kinds, three fan kinds, linear min/max, linear steps with ≥ 1 entry, pid with gains not all
    zero, the six function types with ≥ 1 member, `controlAlgorithm` absent | `direct` | `pid` |
    `{direct: {maxPwmChangePerCycle ≥ 1}}` | `{pid: {p,i,d}}` not all zero, hwmon fan with exactly
    one of index / rpmChannel ≥ 1) whose references resolve, whose ids are unique and whose
    member graph is acyclic is accepted. -/
theorem C11_complete (c : Configuration) (permOk : Bool) (hd : Documented c)
    (hr : refsResolve c) (hu : uniqueIds c) (ha : Acyclic c) (hp : permOk = true) :
    validateConfig c permOk = .ok () := documented_accepted c permOk hd hr hu ha fun _ => hp

/-- the shipped fan2go.yaml (fans cpu / in_front / out_back, three hwmon sensors, a step curve,
    two min/max curves and `case_avg_curve = average(...)`) -/
def shipped : Configuration :=
  { sensors := [{ id := "cpu_package", hwmon := some 1 }, { id := "mainboard", hwmon := some 3 },
                { id := "sata_ssd", hwmon := some 1 }],
    curves := [
      { id := "cpu_curve",
        linear := some { sensor := "cpu_package", steps := some [(40, .fin 0), (50, .fin 50), (80, .fin 255)] } },
      { id := "mainboard_curve", linear := some { sensor := "mainboard", min := 40, max := 80 } },
      { id := "ssd_curve", linear := some { sensor := "sata_ssd", min := 40, max := 70 } },
      { id := "case_avg_curve",
        function := some { type := "average", curves := ["cpu_curve", "mainboard_curve", "ssd_curve"] } }],
    fans := [
      { id := "cpu", curve := "cpu_curve", hwmon := some { rpmChannel := 1, pwmChannel := 1 },
        controlAlgorithm := some { direct := some (some 10) } },
      { id := "in_front", curve := "case_avg_curve", hwmon := some { rpmChannel := 4 },
        controlAlgorithm := some { direct := some none } },
      { id := "out_back", curve := "case_avg_curve", hwmon := some { rpmChannel := 5 } }] }

theorem shipped_accepted : validateConfig shipped true = .ok () := rfl
theorem shipped_documented : Documented shipped := by decide

/-- the soundness theorems apply to the shipped configuration (`shipped_accepted`); what they conclude
    are the hypotheses of `C11_complete` … -/
example : uniqueIds shipped ∧ oneBackend shipped ∧ refsResolve shipped ∧ Acyclic shipped :=
  ⟨C11_sound_ids _ _ shipped_accepted, C11_sound_backend _ _ shipped_accepted,
   C11_sound_refs _ _ shipped_accepted, C11_sound_acyclic _ _ shipped_accepted⟩

/-- … and the two extra hypotheses of `C11_eval_total_partial` -/
example : FunctionsNonempty shipped ∧ NoEmptySteps shipped := C11_sound_nonempty _ _ shipped_accepted

def sv50 : SensorView := { avg := .fin 50000, value := .ok (.fin 50000) }

theorem sv50_defined : SensorsDefined shipped [("cpu_package", sv50), ("mainboard", sv50), ("sata_ssd", sv50)] := by
  intro s hs
  simp only [shipped, List.mem_cons, List.not_mem_nil, or_false] at hs
  rcases hs with rfl | rfl | rfl <;> exact ⟨_, rfl, rfl, _, rfl, rfl⟩

example : SensorsDefined shipped [("cpu_package", sv50), ("mainboard", sv50), ("sata_ssd", sv50)] := sv50_defined

/-- `controlAlgorithm: pid` decodes to the default gains 0.3 / 0.02 / 0.005 – a documented form -/
example : docCtrl (some { pid := some (.fin (5404319552844595 / 18014398509481984),
    .fin (5764607523034235 / 288230376151711744), .fin (5764607523034235 / 1152921504606846976)) }) = true := by
  simp [docCtrl, allZero, F64.feq, F64.zero]

/-- the hypotheses of `C11_complete` are satisfiable, and its conclusion agrees with running
    the validator -/
example : validateConfig shipped true = .ok () :=
  C11_complete shipped true shipped_documented (C11_sound_refs _ _ shipped_accepted)
    (C11_sound_ids _ _ shipped_accepted) (C11_sound_acyclic _ _ shipped_accepted) rfl

def fnCurve (id : String) (ms : List String) : CurveConfig :=
  { id := id, function := some { type := "maximum", curves := ms } }
def leaf : CurveConfig := { id := "l", linear := some { sensor := "s", min := 30, max := 70 } }
def withCurves (cs : List CurveConfig) : Configuration :=
  { sensors := oneSensor, curves := cs, fans := oneFan "a" }

-- the validator does reject: a 2-cycle, a 3-cycle behind a DAG node, a self reference, a dangling
-- member, a duplicate id
example : validateConfig (withCurves [leaf, fnCurve "a" ["b"], fnCurve "b" ["l", "a"]]) true
    = .error .curveCycle := rfl
example : validateConfig (withCurves [leaf, fnCurve "a" ["b", "l"], fnCurve "b" ["c"],
    fnCurve "c" ["d"], fnCurve "d" ["b"]]) true = .error .curveCycle := rfl
example : validateConfig (withCurves [leaf, fnCurve "a" ["l", "a"]]) true
    = .error (.curveSelfRef "a") := rfl
example : validateConfig (withCurves [leaf, fnCurve "a" ["l", "zz"]]) true
    = .error (.curveNoCurve "a") := rfl
example : validateConfig (withCurves [leaf, fnCurve "a" ["l"], leaf]) true
    = .error (.dupCurve "l") := rfl
/-- a diamond (DAG with a shared descendant) is accepted -/
example : validateConfig (withCurves [leaf, fnCurve "a" ["b", "c"], fnCurve "b" ["d"],
    fnCurve "c" ["d"], fnCurve "d" ["l"]]) true = .ok () := rfl
/-- position of the two checks relative to their neighbours: unsupported type wins over empty
    members; unknown sensor wins over empty steps; unknown curve wins over `controlAlgorithm: {}`,
    which wins over a bad hwmon block -/
example : validateConfig (withCurves [leaf, { id := "a", function := some { type := "median", curves := [] } }]) true
    = .error (.curveBadFnType "a") := rfl
example : validateConfig (withCurves [leaf, { id := "a", function := some { type := "sum", curves := [] } }]) true
    = .error (.curveNoMembers "a") := rfl
example : validateConfig (withCurves [{ id := "a", linear := some { sensor := "zz", steps := some [] } }]) true
    = .error (.curveNoSensor "a") := rfl
example : validateConfig (withCurves [{ id := "a", linear := some { sensor := "s", steps := some [] } }]) true
    = .error (.curveEmptySteps "a") := rfl
def emptyAlgoFan (curve : String) : Configuration :=
  { sensors := oneSensor, curves := [leaf],
    fans := [{ id := "fan", curve := curve, controlAlgorithm := some {}, hwmon := some {} }] }
example : validateConfig (emptyAlgoFan "zz") true = .error (.fanNoCurve "fan") := rfl
example : validateConfig (emptyAlgoFan "l") true = .error (.fanEmptyAlgo "fan") := rfl

/-- the permission error wins over a fan error (`err = validateFans(config)` is not returned
    immediately) -/
def cmdSensorBadFan : Configuration :=
  { sensors := [{ id := "s", cmd := true }], curves := [leaf], fans := [{ id := "fan", curve := "l" }] }
example : validateConfig cmdSensorBadFan false = .error .configPerm := rfl
example : validateConfig cmdSensorBadFan true = .error (.fanNoBackend "fan") := rfl

end C11
end Fan2go

open Fan2go.C11 in
#print axioms C11_sound_ids
open Fan2go.C11 in
#print axioms C11_sound_backend
open Fan2go.C11 in
#print axioms C11_sound_refs
open Fan2go.C11 in
#print axioms C11_sound_no_self
open Fan2go.C11 in
#print axioms C11_cycle_criterion
open Fan2go.C11 in
#print axioms C11_sound_acyclic
open Fan2go.C11 in
#print axioms C11_sound_nonempty
open Fan2go.C11 in
#print axioms C11_sound_algo
open Fan2go.C11 in
#print axioms C11_eval_total
open Fan2go.C11 in
#print axioms C11_eval_total_partial
open Fan2go.C11 in
#print axioms C11_complete
