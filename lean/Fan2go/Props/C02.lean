/-
  C02 — A never-stop fan is never driven below its minimum, and the minimum never drops.

  `World.floor = fan.GetMinPwm() + minPwmOffset` is the effective minimum. For ALL `indef`, ALL control
  loops, ALL curve outcomes and ALL event sequences. The statements hold for every fan; they carry
  their meaning for `neverStop` fans (for other fans `getMin = 0` and the stall branch never fires).
-/
import Fan2go.Proofs.Stall
import Fan2go.Props.C01
namespace Fan2go
open F64

/-- a stalled fan: `exWorld` with an RPM input that has been reading 0 while the request sat at the
    floor 30 -/
def exStalled : World :=
  { exWorld with dev := { hasRpm := true }, ctl := { exWorld.ctl with lastSet := some 30 } }

theorem exStalled_inv : Inv exStalled := exWorld_inv.of_same (FanSame.refl _) rfl rfl rfl

theorem exStalled_target (indef : Int) : computedTarget indef exStalled 0 30 0 = 30 := by
  rw [computedTarget_direct_none indef (cv := 0) (last := 30) (now := 0) rfl (le_refl _) (by norm_num)]
  exact rescale_zero indef 30 200 (by norm_num) (by norm_num) (by norm_num)

theorem exStalled_avg (indef : Int) : toInt indef exStalled.fan.getRpmAvg ≤ 0 := (toInt_fin_zero indef).le

theorem exStalled_raises (indef : Int) :
    ∃ w' obs, calculateTargetPwm indef exStalled (.ok 0) 0 = (w', .ok 31, obs) ∧
      Obs.raised 30 31 ∈ obs := by
  obtain ⟨w', obs, h, -, -, -, hr, -, -⟩ :=
    calc_stall_raises exStalled_inv indef (cv := 0) (now := 0) (l := 30)
      ((stalled_iff ..).2 ⟨rfl, rfl, rfl, exStalled_avg indef⟩) (exStalled_target indef) (by decide)
  exact ⟨w', obs, h, hr⟩

/-- Never below the minimum: every request is at least the effective floor (before and after the
    cycle), which is at least the fan's minimum PWM. -/
theorem C02_request_ge_floor (indef : Int) (w w' : World) (curve : Res Int) (now t : Int)
    (obs : List Obs) (hinv : Inv w)
    (h : calculateTargetPwm indef w curve now = (w', .ok t, obs)) :
    w.fan.getMin ≤ w.floor ∧ w.floor ≤ t ∧ w'.floor ≤ t :=
  ⟨hinv.min_le_floor, ((CalcCase.of_eq h).range hinv).1, ((CalcCase.of_eq h).range hinv).2.2⟩

example (indef : Int) : ∃ w' t obs, calculateTargetPwm indef exStalled (.ok 0) 0 = (w', .ok t, obs) := by
  obtain ⟨w', obs, h, -⟩ := exStalled_raises indef; exact ⟨w', _, obs, h⟩

/-- The effective floor never drops, whatever happens (cycle with any curve outcome, poll, device
    change). No hypothesis is needed. -/
theorem C02_floor_monotone (indef : Int) (w : World) (e : Ev) : w.floor ≤ (stepEv indef w e).w.floor :=
  step_floor_le indef w e

example : exStalled.floor ≤ (stepEv 0 exStalled (.cycle (.ok 0) 0)).w.floor := C02_floor_monotone _ _ _

/-- The fan's own minimum is untouched while regulating (the stall branch raises the offset only). -/
theorem C02_min_never_drops (indef : Int) (w : World) (e : Ev) :
    (stepEv indef w e).w.fan.getMin = w.fan.getMin :=
  (step_cases indef w e).getMin

example : (stepEv 0 exStalled (.cycle (.ok 0) 0)).w.fan.getMin = 30 := C02_min_never_drops _ _ _

/-- A raise is strict and by exactly one; the request issued at the raise is one above the request at
    which the fan stalled (`lastSetPwm`). -/
theorem C02_raise_is_strict (indef : Int) (w w' : World) (curve : Res Int) (now t a b : Int)
    (obs : List Obs) (h : calculateTargetPwm indef w curve now = (w', .ok t, obs))
    (hr : Obs.raised a b ∈ obs) :
    a = w.floor ∧ b = a + 1 ∧ w'.ctl.offset = w.ctl.offset + 1 ∧ w'.floor = w.floor + 1 ∧
      ∃ l, w.ctl.lastSet = some l ∧ t = l + 1 := by
  obtain ⟨h1, h2, h3, h4, l, hs, -, h6, -⟩ := (CalcCase.of_eq h).raise_shape hr
  exact ⟨h1, h2, h3, h4, l, ((stalled_iff ..).1 hs).2.2.1, Res.ok.inj h6⟩

example (indef : Int) : ∃ w' t obs a b, calculateTargetPwm indef exStalled (.ok 0) 0 = (w', .ok t, obs) ∧
    Obs.raised a b ∈ obs := by
  obtain ⟨w', obs, h, hr⟩ := exStalled_raises indef; exact ⟨w', _, obs, _, _, h, hr⟩

/-- The raise is permanent. Index form: in the trace of any run, a request observed at position `j`
    is at least the floor in force at any earlier (or the same) position `i`. -/
theorem C02_history (indef : Int) (w0 : World) (es : List Ev) (hinv : Inv w0) (i j : Nat)
    (hij : i ≤ j) (hj : j < (runEvs indef w0 es).length) (t : Int)
    (ht : Obs.requested t ∈ ((runEvs indef w0 es)[j]).2.2.obs) :
    ((runEvs indef w0 es)[i]'(by omega)).1.floor ≤ t := by
  have hij' : ((runEvs indef w0 es)[i]'(by omega)).1.floor ≤ ((runEvs indef w0 es)[j]).1.floor := by
    rcases Nat.eq_or_lt_of_le hij with rfl | hlt
    · exact le_refl _
    · exact List.pairwise_iff_getElem.1 (run_floor_sorted indef w0 es) i j (by omega) hj hlt
  exact le_trans hij' (run_requested indef w0 es hinv _ (List.getElem_mem hj) t ht).1

example : 0 < (runEvs 0 exStalled [.cycle (.ok 0) 0, .poll]).length := by
  rw [runEvs_cons]; exact Nat.succ_pos _

/-- The same without indices: split the trace anywhere; every request at or after the split point
    is at least the floor at the split point. -/
theorem C02_history_split (indef : Int) (w0 : World) (es : List Ev) (hinv : Inv w0)
    (l1 : List (World × Ev × StepOut)) (x : World × Ev × StepOut) (l2 : List (World × Ev × StepOut))
    (h : runEvs indef w0 es = l1 ++ x :: l2) :
    ∀ y ∈ x :: l2, ∀ t, Obs.requested t ∈ y.2.2.obs → x.1.floor ≤ t := by
  intro y hy t ht
  have hs := run_floor_sorted indef w0 es
  rw [h] at hs
  have hxy : x.1.floor ≤ y.1.floor := by
    rcases List.mem_cons.mp hy with rfl | hy
    · exact le_refl _
    · exact (List.pairwise_cons.1 (List.pairwise_append.1 hs).2.1).1 y hy
  exact le_trans hxy (run_requested indef w0 es hinv y (by rw [h]; exact List.mem_append_right _ hy) t ht).1

example : ∃ l2, runEvs 0 exStalled [.cycle (.ok 0) 0, .poll] =
    [] ++ (exStalled, Ev.cycle (.ok 0) 0, stepEv 0 exStalled (.cycle (.ok 0) 0)) :: l2 := by
  obtain ⟨es', h⟩ := runEvs_tail 0 exStalled (.cycle (.ok 0) 0) [.poll]
  exact ⟨_, h⟩

/-- Every state of a run has a floor at least the initial one, and the fan minimum it started with. -/
theorem C02_floor_ge_initial (indef : Int) (w0 : World) (es : List Ev) :
    (∀ x ∈ runEvs indef w0 es,
      w0.floor ≤ x.1.floor ∧ w0.floor ≤ x.2.2.w.floor ∧
      x.1.fan.getMin = w0.fan.getMin ∧ x.2.2.w.fan.getMin = w0.fan.getMin) ∧
    w0.floor ≤ (runFinal indef w0 es).floor ∧ (runFinal indef w0 es).fan.getMin = w0.fan.getMin := by
  obtain ⟨hf, h⟩ := run_limits indef w0 es
  exact ⟨fun x hx => ⟨(h x hx).1.floor, (h x hx).2.floor, (h x hx).1.getMin, (h x hx).2.getMin⟩,
    hf.floor, hf.getMin⟩

example : exStalled.floor ≤ (runFinal 0 exStalled [.cycle (.ok 0) 0, .poll, .cycle (.ok 0) 1]).floor :=
  (C02_floor_ge_initial 0 exStalled _).2.1

end Fan2go

#print axioms Fan2go.C02_request_ge_floor
#print axioms Fan2go.C02_floor_monotone
#print axioms Fan2go.C02_min_never_drops
#print axioms Fan2go.C02_raise_is_strict
#print axioms Fan2go.C02_history
#print axioms Fan2go.C02_history_split
#print axioms Fan2go.C02_floor_ge_initial
