/-
  C04  Constant curve value: request settles at one target, same for every algorithm
       (internal/control_loop/{direct,pid}.go, internal/controller/controller.go:454-472 in
        `calculateTargetPwm`; models: Model/ControlLoop.lean, Model/Controller.lean `rescale`, `clamp255`)

  The loop as the controller closes it (`closedLoop`, with curve value `c` and previous request `x`):
  the value fed back as `current` is the previous REQUEST, already rescaled into [lo, hi]. `steady` is
  the steady request the property names.
  All theorems hold for every `indef` (the implementation-defined `int(NaN/Inf/huge)`).

  RESULT
  * direct loop without maxPwmChangePerCycle: settles at `steady c lo hi` after ONE cycle from any
    state; `steady` is lo at 0, hi at 255, monotone                       – PROVED
  * direct loop with maxPwmChangePerCycle = m: one step moves by at most m toward c on the
    0..255 scale (exact integer characterisation)                         – PROVED
    closed loop on the identity range lo = 0, hi = 255: reaches c after ⌈255/m⌉ cycles, stays,
    steps ≤ m, monotone                                                   – PROVED (`rescale t 0 255 = t`
    for all 256 values: kernel evaluation of the two roundings `rescaleQ t 0 255`, `rescale_eq` for the rest)
    closed loop on any other range: settles at `steady c lo hi`            – REFUTED
    (`C04_limited_refuted`): lo = 100, hi = 255, m = 10, c = 0: from the request 100 = steady the
    next request is 154; the trajectory is 100,154,187,207,219,227,231,234,236,237,237,… and from 255
    it is 255,248,244,242,241,240,239,239,…: the loop compares the curve value (scale 0..255) with
    the request (scale lo..hi); the rest point is neither `steady` nor independent of the history.
  * PID: here only the first cycle and a rest-point fact; no wind-up and settling of the default PID
    loop (from a fresh loop at the default tick of 200 ms: exactly at the curve value) are in
    Props/C04pid.lean.
-/
import Fan2go.Proofs.ControlLoops
namespace Fan2go
open F64

/-- what the controller requests next, given the curve value `c` and the previous request `x`. -/
def closedLoop (indef : Int) (m : Option Int) (lo hi c x : Int) : Int :=
  rescale indef (clamp255 (directCycle indef m c x)) lo hi

/-- the steady request the property names: a function of curve value and fan range alone. -/
def steady (indef : Int) (c lo hi : Int) : Int := rescale indef (clamp255 c) lo hi

/-- `Cycle(target, current)` without `maxPwmChangePerCycle` is the clamped target – for every
    target and every `current`. -/
theorem C04_direct_settles (indef : Int) (c x : Int) : directCycle indef none c x = clamp255 c :=
  directCycle_none indef c x

/-- hence the closed loop requests `steady c lo hi` after one cycle from ANY previous request. -/
theorem C04_direct_settles_closed (indef : Int) (lo hi c x : Int) :
    closedLoop indef none lo hi c x = steady indef c lo hi := by
  unfold closedLoop steady
  rw [directCycle_none, clamp255_id (clamp255_range c).1 (clamp255_range c).2]

/-- … and stays there, for any number k ≥ 1 of cycles. -/
theorem C04_direct_settles_iter (indef : Int) (lo hi c x : Int) (k : Nat) (hk : 1 ≤ k) :
    (closedLoop indef none lo hi c)^[k] x = steady indef c lo hi := by
  obtain ⟨j, rfl⟩ : ∃ j, k = j + 1 := ⟨k - 1, by omega⟩
  rw [Function.iterate_succ_apply', C04_direct_settles_closed]

/-- the steady request is the fan's minimum for curve 0, its maximum for curve 255, and
    non-decreasing in the curve value; it always lies in the fan's range. -/
theorem C04_steady_endpoints (indef : Int) (lo hi : Int) (hl : 0 ≤ lo) (hlh : lo ≤ hi) (hh : hi ≤ 255) :
    steady indef 0 lo hi = lo ∧ steady indef 255 lo hi = hi ∧
    (∀ c c', c ≤ c' → steady indef c lo hi ≤ steady indef c' lo hi) ∧
    (∀ c, lo ≤ steady indef c lo hi ∧ steady indef c lo hi ≤ hi) :=
  ⟨rescale_zero indef lo hi hl hlh hh, rescale_full indef lo hi hl hlh hh,
    fun c c' h => rescale_mono indef lo hi (clamp255_range c).1 (clamp255_monotone h)
      (clamp255_range c').2 hl hlh hh,
    fun c => rescale_range indef _ lo hi (clamp255_range c) hl hlh hh⟩

example (indef : Int) : steady indef 0 50 200 = 50 ∧ steady indef 255 50 200 = 200 :=
  have h := C04_steady_endpoints indef 50 200 (by norm_num) (by norm_num) (by norm_num)
  ⟨h.1, h.2.1⟩

/-- exact integer characterisation of one rate-limited cycle. -/
theorem C04_limited_step (indef : Int) (m c x : Int) (hm1 : 1 ≤ m) (hm : m ≤ 255) (hc0 : 0 ≤ c)
    (hc : c ≤ 255) (hx0 : 0 ≤ x) (hx : x ≤ 255) :
    directCycle indef (some m) c x = x + max (-m) (min m (c - x)) :=
  directCycle_some_byte indef m c x hm1 hm hc0 hc hx0 hx

/-- consequences: the step is at most m, stays in 0..255, moves monotonically toward c, and lands
    on c as soon as c is within reach. -/
theorem C04_limited_step_facts (indef : Int) (m c x : Int) (hm1 : 1 ≤ m) (hm : m ≤ 255) (hc0 : 0 ≤ c)
    (hc : c ≤ 255) (hx0 : 0 ≤ x) (hx : x ≤ 255) :
    let r := directCycle indef (some m) c x
    |r - x| ≤ m ∧ 0 ≤ r ∧ r ≤ 255 ∧ (x ≤ c → x ≤ r ∧ r ≤ c) ∧ (c ≤ x → c ≤ r ∧ r ≤ x) ∧
    (|c - x| ≤ m → r = c) ∧ (m < |c - x| → |c - r| = |c - x| - m) := by
  intro r
  have : r = stepI m c x := directCycle_some_byte indef m c x hm1 hm hc0 hc hx0 hx
  rw [this]
  exact stepI_spec m c x hm1 hc0 hc hx0 hx

example (indef : Int) : directCycle indef (some 10) 200 100 = 110 := by
  rw [C04_limited_step indef 10 200 100 (by norm_num) (by norm_num) (by norm_num) (by norm_num)
    (by norm_num) (by norm_num)]; norm_num

/-- the range 0..255 is mapped to itself identically (all 256 cases). -/
theorem C04_rescale_identity (indef : Int) (t : Int) (h0 : 0 ≤ t) (h1 : t ≤ 255) :
    rescale indef t 0 255 = t := rescale_id indef h0 h1

theorem closedLoop_some (indef : Int) {m lo hi c x : Int} (hm1 : 1 ≤ m) (hm : m ≤ 255) (hc0 : 0 ≤ c)
    (hc : c ≤ 255) (hx0 : 0 ≤ x) (hx : x ≤ 255) :
    closedLoop indef (some m) lo hi c x = rescale indef (stepI m c x) lo hi := by
  unfold closedLoop
  obtain ⟨_, s0, s1, _⟩ := stepI_spec m c x hm1 hc0 hc hx0 hx
  rw [directCycle_some_byte indef m c x hm1 hm hc0 hc hx0 hx, clamp255_id s0 s1]

theorem closedLoop_some_indep (indef : Int) {m lo hi c x : Int} (hm1 : 1 ≤ m) (hm : m ≤ 255)
    (hc0 : 0 ≤ c) (hc : c ≤ 255) (hx0 : 0 ≤ x) (hx : x ≤ 255) (hlo : |lo| ≤ 2 ^ 52)
    (hhi : |hi| ≤ 2 ^ 52) :
    closedLoop indef (some m) lo hi c x = closedLoop 0 (some m) lo hi c x := by
  obtain ⟨_, s0, s1, _⟩ := stepI_spec m c x hm1 hc0 hc hx0 hx
  rw [closedLoop_some indef hm1 hm hc0 hc hx0 hx, closedLoop_some 0 hm1 hm hc0 hc hx0 hx,
    rescale_eq indef s0 s1 hlo hhi, rescale_eq 0 s0 s1 hlo hhi]

def approach (m c x0 : Int) (k : Nat) : Int :=
  if x0 ≤ c then min c (x0 + k * m) else max c (x0 - k * m)

theorem approach_zero (m c x0 : Int) : approach m c x0 0 = x0 := by
  unfold approach; split_ifs <;> simp <;> omega

theorem approach_succ {m : Int} (hm1 : 1 ≤ m) (c x0 : Int) (k : Nat) :
    approach m c x0 (k + 1) = stepI m c (approach m c x0 k) ∧
      (x0 ≤ c → approach m c x0 k ≤ c) ∧ (c ≤ x0 → c ≤ approach m c x0 k) := by
  have hkm : (0 : Int) ≤ k * m := by positivity
  unfold approach stepI
  rw [show ((k + 1 : Nat) : Int) * m = k * m + m by push_cast; ring]
  generalize (k : Int) * m = km at *
  split_ifs <;> omega

theorem approach_range {m : Int} (hm1 : 1 ≤ m) {c x0 : Int} (hc0 : 0 ≤ c) (hc : c ≤ 255)
    (hx0 : 0 ≤ x0) (hx : x0 ≤ 255) (k : Nat) : 0 ≤ approach m c x0 k ∧ approach m c x0 k ≤ 255 := by
  have hkm : (0 : Int) ≤ k * m := by positivity
  unfold approach; split_ifs <;> constructor <;> omega

/-- Identity range (min 0, max 255): the k-th request from x0 is `min c (x0 + k·m)` from below and
    `max c (x0 − k·m)` from above. -/
theorem C04_limited_identity_closed_form (indef : Int) (m c x0 : Int) (k : Nat) (hm1 : 1 ≤ m)
    (hm : m ≤ 255) (hc0 : 0 ≤ c) (hc : c ≤ 255) (hx0 : 0 ≤ x0) (hx : x0 ≤ 255) :
    (closedLoop indef (some m) 0 255 c)^[k] x0 =
      if x0 ≤ c then min c (x0 + k * m) else max c (x0 - k * m) := by
  show _ = approach m c x0 k
  induction k with
  | zero => exact (approach_zero m c x0).symm
  | succ k ih =>
    obtain ⟨r0, r1⟩ := approach_range hm1 hc0 hc hx0 hx k
    obtain ⟨_, s0, s1, _⟩ := stepI_spec m c _ hm1 hc0 hc r0 r1
    rw [Function.iterate_succ_apply', ih, closedLoop_some indef hm1 hm hc0 hc r0 r1,
      rescale_id indef s0 s1, (approach_succ hm1 c x0 k).1]

/-- Identity range: after any k with k·m ≥ 255 (i.e. k ≥ ⌈255/m⌉ – depends on m only) the request
    equals the curve value = `steady c 0 255` and stays there; consecutive requests differ by at most
    m and approach monotonically. -/
theorem C04_limited_settles_identity (indef : Int) (m c x0 : Int) (hm1 : 1 ≤ m) (hm : m ≤ 255)
    (hc0 : 0 ≤ c) (hc : c ≤ 255) (hx0 : 0 ≤ x0) (hx : x0 ≤ 255) :
    let req := fun k : Nat => (closedLoop indef (some m) 0 255 c)^[k] x0
    (∀ k : Nat, 255 ≤ (k : Int) * m → req k = c) ∧ steady indef c 0 255 = c ∧
    (∀ k, |req (k + 1) - req k| ≤ m) ∧
    (∀ k, |c - req (k + 1)| ≤ |c - req k|) ∧
    (∀ k, (x0 ≤ c → req k ≤ req (k + 1) ∧ req (k + 1) ≤ c) ∧
          (c ≤ x0 → c ≤ req (k + 1) ∧ req (k + 1) ≤ req k)) := by
  intro req
  have hreq : ∀ k : Nat, req k = approach m c x0 k :=
    fun k => C04_limited_identity_closed_form indef m c x0 k hm1 hm hc0 hc hx0 hx
  have step : ∀ k, (req (k + 1) = stepI m c (req k) ∧ (x0 ≤ c → req k ≤ c) ∧ (c ≤ x0 → c ≤ req k)) ∧
      0 ≤ req k ∧ req k ≤ 255 := fun k => by
    rw [hreq, hreq]
    exact ⟨approach_succ hm1 c x0 k, approach_range hm1 hc0 hc hx0 hx k⟩
  refine ⟨fun k hk => ?_, ?_, fun k => ?_, fun k => ?_, fun k => ?_⟩
  · rw [hreq]; unfold approach; split_ifs <;> omega
  · unfold steady; rw [clamp255_id hc0 hc]; exact rescale_id indef hc0 hc
  all_goals
    obtain ⟨⟨e, a, b⟩, r0, r1⟩ := step k
    obtain ⟨f1, -, -, f4, f5, -, -⟩ := stepI_spec m c (req k) hm1 hc0 hc r0 r1
    rw [e]
  · exact f1
  · simp only [abs_eq_max_neg]
    omega
  · exact ⟨fun h => f4 (a h), fun h => f5 (b h)⟩

example (indef : Int) : (closedLoop indef (some 100) 0 255 30)^[3] 255 = 30 :=
  (C04_limited_settles_identity indef 100 30 255 (by norm_num) (by norm_num) (by norm_num)
    (by norm_num) (by norm_num) (by norm_num)).1 3 (by norm_num)

/-- The property's claim for the rate-limited direct loop: for every limit m there is a number N of
    cycles (depending on m only) after which the request is `steady c lo hi`, whatever the range,
    curve value and starting request. -/
def C04_limited_settles_statement : Prop :=
  ∀ m : Int, 1 ≤ m → m ≤ 255 → ∃ N : Nat, ∀ (indef lo hi c x0 : Int),
    0 ≤ lo → lo < hi → hi ≤ 255 → 0 ≤ c → c ≤ 255 → lo ≤ x0 → x0 ≤ hi →
    ∀ k : Nat, N ≤ k → (closedLoop indef (some m) lo hi c)^[k] x0 = steady indef c lo hi

/-- Witness (for every `indef`): fan range 100..255, limit 10, curve value 0. `steady` is 100, but
    from the request 100 the next request is 154; 237, 238 and 239 are rest points; the trajectories
    from 100 and from 255 end at different values. -/
theorem C04_limited_witness (indef : Int) :
    steady indef 0 100 255 = 100 ∧
    closedLoop indef (some 10) 100 255 0 100 = 154 ∧
    closedLoop indef (some 10) 100 255 0 237 = 237 ∧
    closedLoop indef (some 10) 100 255 0 239 = 239 := by
  have ind : ∀ x : Int, 0 ≤ x → x ≤ 255 →
      closedLoop indef (some 10) 100 255 0 x = closedLoop 0 (some 10) 100 255 0 x := fun x h0 h1 =>
    closedLoop_some_indep indef (by norm_num) (by norm_num) le_rfl (by norm_num) h0 h1 (by norm_num)
      (by norm_num)
  have w : closedLoop 0 (some 10) 100 255 0 100 = 154 ∧ closedLoop 0 (some 10) 100 255 0 237 = 237 ∧
      closedLoop 0 (some 10) 100 255 0 239 = 239 := by decide +kernel
  rw [ind 100 (by norm_num) (by norm_num), ind 237 (by norm_num) (by norm_num),
    ind 239 (by norm_num) (by norm_num)]
  exact ⟨(C04_steady_endpoints indef 100 255 (by norm_num) (by norm_num) le_rfl).1, w⟩

/-- the first twelve requests from 100, and the first five from 255 (model evaluated at `indef = 0`;
    by `closedLoop_some_indep` the values do not depend on `indef`). -/
theorem C04_limited_witness_trajectory :
    (List.range 12).map (fun k => (closedLoop 0 (some 10) 100 255 0)^[k] 100)
      = [100, 154, 187, 207, 219, 227, 231, 234, 236, 237, 237, 237] ∧
    (List.range 5).map (fun k => (closedLoop 0 (some 10) 100 255 0)^[k] 255)
      = [255, 248, 244, 242, 241] := by decide +kernel

theorem C04_limited_refuted : ¬ C04_limited_settles_statement := by
  intro h
  obtain ⟨N, hN⟩ := h 10 (by norm_num) (by norm_num)
  have hk := hN 0 100 255 0 100 (by norm_num) (by norm_num) le_rfl le_rfl (by norm_num) le_rfl
    (by norm_num)
  have a := hk N le_rfl
  have b := hk (N + 1) (by omega)
  obtain ⟨s, w, _, _⟩ := C04_limited_witness 0
  rw [Function.iterate_succ_apply', a, s, w] at b
  omega

/-- the rest point depends on the history: started at 237 the request stays 237 forever, started at
    239 it stays 239 forever – neither is `steady 0 100 255 = 100`. -/
theorem C04_limited_history_dependent (indef : Int) (k : Nat) :
    (closedLoop indef (some 10) 100 255 0)^[k] 237 = 237 ∧
    (closedLoop indef (some 10) 100 255 0)^[k] 239 = 239 := by
  obtain ⟨_, _, f7, f9⟩ := C04_limited_witness indef
  exact ⟨Function.iterate_fixed f7 k, Function.iterate_fixed f9 k⟩

/-- first call of the PID loop (`lastTime.IsZero()`): the output is 0, so the result is the clamped
    `current` – the curve value is ignored in this cycle; the clock is stored, the integral untouched. -/
theorem C04_pid_first_cycle (indef : Int) (st : PidSt) (c x now : Int) (h : st.lastTime = none)
    (hx : |x| ≤ 2 ^ 53) :
    (pidCycle indef st c x now).2 = clamp255 x ∧
    (pidCycle indef st c x now).1.lastTime = some now ∧
    (pidCycle indef st c x now).1.integral = st.integral := by
  rw [pidCycle_first indef c now h hx]
  exact ⟨rfl, rfl, rfl⟩

/-- a rest point of the PID loop: target = current, no previous error, empty integral, finite gains
    and a finite non-zero `dt` – output 0, memory unchanged (up to the clock), result = clamped
    `current`. -/
theorem C04_pid_rest_point (indef : Int) (st : PidSt) (x now last : Int) (p i d t : ℚ)
    (hp : st.p = fin p) (hi : st.i = fin i) (hd : st.d = fin d) (he : st.error = fin 0)
    (hI : st.integral = fin 0) (hl : st.lastTime = some last)
    (ht : secondsOfNanos (now - last) = fin t) (ht0 : t ≠ 0) (hx : |x| ≤ 2 ^ 53) :
    pidCycle indef st x x now = ({ st with lastTime := some now }, clamp255 x) := by
  have e0 : (ofInt x - ofInt x : F64) = fin 0 := by
    rw [ofInt_small hx, sub_fin_fin, sub_self, ofRat_zero]
  have e : pidLoop st (ofInt x) (ofInt x) now = ({ st with lastTime := some now }, fin 0) := by
    unfold pidLoop
    rw [hl]
    simp only [ht, e0, hp, hi, hd, he, hI, mul_fin_fin, add_fin_fin, sub_fin_fin, div_fin_fin _ ht0,
      mul_zero, zero_mul, add_zero, sub_self, zero_div, ofRat_zero]
  rw [pidCycle_eq, e, loopTail_ofInt_add_zero indef hx]

example (indef : Int) :
    (pidCycle indef { p := fin 1, i := fin 0, d := fin 0 } 200 100 5).2 = 100 := by
  have := (C04_pid_first_cycle indef { p := fin 1, i := fin 0, d := fin 0 } 200 100 5 rfl
    (by norm_num)).1
  rw [this]; rfl

end Fan2go

#print axioms Fan2go.C04_direct_settles
#print axioms Fan2go.C04_direct_settles_closed
#print axioms Fan2go.C04_direct_settles_iter
#print axioms Fan2go.C04_steady_endpoints
#print axioms Fan2go.C04_limited_step
#print axioms Fan2go.C04_limited_step_facts
#print axioms Fan2go.C04_rescale_identity
#print axioms Fan2go.C04_limited_identity_closed_form
#print axioms Fan2go.C04_limited_settles_identity
#print axioms Fan2go.C04_limited_witness
#print axioms Fan2go.C04_limited_witness_trajectory
#print axioms Fan2go.C04_limited_refuted
#print axioms Fan2go.C04_limited_history_dependent
#print axioms Fan2go.C04_pid_first_cycle
#print axioms Fan2go.C04_pid_rest_point
