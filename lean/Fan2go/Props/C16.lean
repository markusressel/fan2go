/-
  C16  With parallel initialisation disabled, fans are analysed one at a time
       (internal/controller/controller.go: `InitializationSequenceMutex`, `RunInitializationSequence`,
        `computePwmMap`)

  Model (Model/InitLock.lean): any number of processes – one per fan controller – each running a
  straight-line program over {lock, unlock, sweepStep, measureStep, other}, one non-re-entrant mutex,
  interleaving semantics; a schedule is the list of process ids in the order in which they step.
  `analysing progs s p`: process `p` has executed its first analysis step and not yet its last one.

  Tie to the code: the programs are not hand-written. `programOfN k seq` translates the call sequences
  that vlib/factgen.py REGENERATES from the current controller.go on every check run
  (`Fan2go.Generated.sequences`; `seqInit` = `RunInitializationSequence`, `seqMap` = `computePwmMap`),
  with `k` iterations of the measurement loop; `seqInit_eq` / `seqMap_eq` (Props/Facts.lean) read the sequences off and
  `C16_generated_program_ok_unrolled` proves the coverage check of the programs. If the lock is moved, dropped,
  or released before the measurement loop, the regenerated sequence changes and these (and `fact_init_locked` /
  `fact_map_locked`) no longer compile.
  The `su.together` stream (go/harness/startup.go) starts 2..4 REAL controllers concurrently with random
  delays and reports whether two analysis intervals overlapped.

  ASSUMED: `sync.Mutex` provides mutual exclusion as modelled (lock enabled only when free); every fan
  controller uses the one package-level `InitializationSequenceMutex` (it is a package variable).
-/
import Fan2go.Proofs.InitLock
import Fan2go.Proofs.Startup
import Fan2go.Props.Facts
namespace Fan2go
open InitLock

/-- If in every program the analysis lies inside one lock … unlock span (`covered`), then in no reachable
    state – for every number of processes (`ι` arbitrary, e.g. `Fin N`) and every schedule – are two
    different processes analysing. -/
theorem C16_reduction {ι : Type} [DecidableEq ι] (progs : ι → List Instr)
    (hc : ∀ p, covered (progs p) = true) :
    ∀ s, Reachable progs s → ∀ p q, p ≠ q → ¬ (analysing progs s p = true ∧ analysing progs s q = true) :=
  fun s hr p q hne => exclusion progs hc s hr p q hne

/-- the same in terms of schedules, with the number of processes explicit -/
theorem C16_mutex_excludes (N : Nat) (progs : Fin N → List Instr) (hc : ∀ p, covered (progs p) = true)
    (sched : List (Fin N)) (s : State (Fin N)) (he : exec progs State.init sched = some s)
    (p q : Fin N) (hne : p ≠ q) :
    ¬ (analysing progs s p = true ∧ analysing progs s q = true) :=
  exclusion progs hc s ⟨sched, he⟩ p q hne

/-- whenever some process is analysing, the mutex is locked -/
theorem C16_analysing_locked {ι : Type} [DecidableEq ι] (progs : ι → List Instr)
    (hc : ∀ p, covered (progs p) = true) (s : State ι) (hr : Reachable progs s) (p : ι)
    (hp : analysing progs s p = true) : s.locked = true :=
  (Inv.of_reachable progs hc s hr p (covered_analysing (hc p) _ hp)).1

theorem programOfN_seqInit (k : Nat) : programOfN k seqInit =
    .lock :: ([.sweepStep, .other] ++ (List.replicate k [.measureStep, .measureStep, .measureStep]).flatten ++
      [.unlock]) := by
  rw [seqInit_eq]
  exact programOfN_of_parts k (pre := [.lock, .sweepStep, .other])
    (body := [.measureStep, .measureStep, .measureStep]) (post := [.unlock]) (by decide) (by decide) (by decide)

theorem programOfN_seqMap (k : Nat) : programOfN k seqMap = .lock :: ([.sweepStep] ++ [.unlock]) := by
  rw [seqMap_eq, programOfN_of_parts k (pre := [.lock, .sweepStep]) (body := []) (post := [.unlock])
    (by decide) (by decide) (by decide)]
  simp

/-- the regenerated `RunInitializationSequence` translates to lock, sweep, other, 3 measurement steps per
    iteration, unlock; the regenerated `computePwmMap` to lock, sweep, unlock -/
theorem C16_generated_program_shape :
    programOf seqInit = [.lock, .sweepStep, .other, .measureStep, .measureStep, .measureStep, .unlock] ∧
    programOf seqMap = [.lock, .sweepStep, .unlock] :=
  ⟨programOfN_seqInit 1, programOfN_seqMap 1⟩

/-- for every number `k` of iterations of the measurement loop the programs are brackets `lock … unlock`
    without a mutex call inside -/
theorem C16_generated_program_ok_unrolled (k : Nat) :
    covered (programOfN k seqInit) = true ∧ covered (programOfN k seqMap) = true := by
  rw [programOfN_seqInit, programOfN_seqMap]
  exact ⟨bracket_covered _ (by simp [Instr.isMutexOp]), bracket_covered _ (by simp [Instr.isMutexOp])⟩

/-- the coverage check on the regenerated sequences (one loop iteration) -/
theorem C16_generated_program_ok :
    covered (programOf seqInit) = true ∧ covered (programOf seqMap) = true :=
  C16_generated_program_ok_unrolled 1

/-- Why a hwmon fan's program is `RunInitializationSequence` alone: the `computePwmMap` that `Run` calls
    after it never sweeps (model of C15), whatever was stored and configured. -/
theorem C16_no_sweep_after_init (d : Startup.FanDecl) (st : Startup.Store) :
    (Startup.computePwmMapLocked d (Startup.runInit d none st).ctl (Startup.runInit d none st).store).1.contains .sweep
      = false := by
  -- a sweep needs a controller without a map (`locked_spec`); the initialisation leaves one (`hctl`)
  obtain ⟨-, -, -, -, hctl⟩ := Startup.runInit_spec d none st
  rw [(Startup.locked_spec ..).1, hctl]; simp

/-- With RPM data stored the only analysis of a start is the sweep inside `computePwmMap` (file / cmd fans;
    a hwmon fan whose map alone is missing): program `seqMap`. Without, a hwmon fan analyses inside
    `RunInitializationSequence` only: program `seqInit`. -/
theorem C16_where_analysis_happens (d : Startup.FanDecl) (st : Startup.Store) :
    (st.rpm = true → (Startup.start d st).measured = false) ∧
    (d.kind = .hwmon → st.rpm = false → (Startup.start d st).analysed = (Startup.runInit d none st).analysed) :=
  ⟨fun h => by simp [Startup.start_spec, h],
   fun hk h => by simp [Startup.Out.analysed_eq, Startup.start_spec, Startup.runInit_spec, hk, h]⟩

/-- `runFanInitializationInParallel: false`: any number of fan controllers, each running the regenerated
    `RunInitializationSequence` (with its own number of measurement iterations) or the regenerated
    `computePwmMap`: under every schedule, at no moment are two fans in their analysis. -/
theorem C16_holds {ι : Type} [DecidableEq ι] (parallel : Bool) (hp : parallel = false)
    (progs : ι → List Instr)
    (hprog : ∀ p, ∃ k, progs p = programFor parallel k seqInit ∨ progs p = programFor parallel k seqMap) :
    ∀ s, Reachable progs s → ∀ p q, p ≠ q → ¬ (analysing progs s p = true ∧ analysing progs s q = true) := by
  subst hp
  apply C16_reduction
  intro p
  obtain ⟨k, h | h⟩ := hprog p
  · rw [h]; exact (C16_generated_program_ok_unrolled k).1
  · rw [h]; exact (C16_generated_program_ok_unrolled k).2

/-- two fans, both running the regenerated initialisation; with `parallel` the mutex calls are left out -/
def twoFans (parallel : Bool) : Fin 2 → List Instr := fun _ => programFor parallel 1 seqInit

theorem twoFans_eq (parallel : Bool) : twoFans parallel = fun _ =>
    if parallel then [.sweepStep, .other, .measureStep, .measureStep, .measureStep]
    else [.lock, .sweepStep, .other, .measureStep, .measureStep, .measureStep, .unlock] := by
  funext _; unfold twoFans programFor; rw [programOfN_seqInit]; cases parallel <;> rfl

def bothAnalysingAfter (progs : Fin 2 → List Instr) (sched : List (Fin 2)) : Bool :=
  match exec progs State.init sched with
  | some s => analysing progs s 0 && analysing progs s 1
  | none => false

theorem exec_of_bothAnalysingAfter (progs : Fin 2 → List Instr) (sched : List (Fin 2))
    (h : bothAnalysingAfter progs sched = true) :
    ∃ s, exec progs State.init sched = some s ∧ analysing progs s 0 = true ∧ analysing progs s 1 = true := by
  unfold bothAnalysingAfter at h
  cases he : exec progs State.init sched with
  | none => simp [he] at h
  | some s => exact ⟨s, rfl, by simpa [he] using h⟩

/-- the theorem is not about stuck systems: with the mutex both fans run to completion one after the
    other, and while the first is analysing (after its sweep) the second cannot even take the lock -/
example :
    (exec (twoFans false) State.init [0, 0, 0, 0, 0, 0, 0, 1, 1, 1, 1, 1, 1, 1]).isSome = true ∧
    (match exec (twoFans false) State.init [0, 0] with
     | some s => analysing (twoFans false) s 0 && s.locked
     | none => false) = true ∧
    (exec (twoFans false) State.init [0, 0, 1]).isSome = false := by rw [twoFans_eq]; decide

/-- `Run` of a hwmon fan continues after the initialisation with the self-locking `computePwmMap`, which
    then does not sweep (`C16_no_sweep_after_init`): the whole program is still covered -/
example : covered (programOfN 1 seqInit ++ [.lock, .other, .unlock]) = true ∧
    covered (programOfN 3 seqInit ++ [.lock, .other, .unlock]) = true := by rw [seqInit_eq]; decide

/-- With the option TRUE analyses may overlap: the mutex calls are not executed, and the schedule
    "fan 0 sweeps, fan 1 sweeps" reaches a state in which both are analysing. -/
theorem C16_parallel_may_overlap (parallel : Bool) (hp : parallel = true) :
    ∃ (sched : List (Fin 2)) (s : State (Fin 2)), exec (twoFans parallel) State.init sched = some s ∧
      analysing (twoFans parallel) s 0 = true ∧ analysing (twoFans parallel) s 1 = true := by
  subst hp
  exact ⟨[0, 1], exec_of_bothAnalysingAfter _ _ (by rw [twoFans_eq]; decide)⟩

/-- The theorem can fail: for the shape of the code BEFORE the fix (mutex around the sweep only, the
    RPM-curve measurement outside) the coverage check fails and there is a schedule with two fans
    analysing at once: fan 0 sweeps, unlocks and starts measuring; fan 1 locks and sweeps. -/
theorem C16_old_program_overlaps :
    programOf oldSeqInit = oldProgram ∧ covered oldProgram = false ∧
    ∃ (sched : List (Fin 2)) (s : State (Fin 2)), exec (fun _ => oldProgram) State.init sched = some s ∧
      analysing (fun _ => oldProgram) s 0 = true ∧ analysing (fun _ => oldProgram) s 1 = true :=
  ⟨by decide, by decide, [0, 0, 0, 0, 0, 1, 1], exec_of_bothAnalysingAfter _ _ (by decide)⟩

#print axioms C16_reduction
#print axioms C16_mutex_excludes
#print axioms C16_analysing_locked
#print axioms C16_generated_program_shape
#print axioms C16_generated_program_ok
#print axioms C16_generated_program_ok_unrolled
#print axioms C16_no_sweep_after_init
#print axioms C16_where_analysis_happens
#print axioms C16_holds
#print axioms C16_parallel_may_overlap
#print axioms C16_old_program_overlaps

end Fan2go
