/-
  C15  WHAT the start-up analysis computes
       (internal/controller/controller.go `computePwmMapAutomatically`, `updateDistinctPwmValues`, the RPM-curve
        loop of `RunInitializationSequence`, `setPwm`, `waitForFanToSettle`; internal/util/math.go
        `InterpolateLinearlyInt`; internal/fans/{common,hwmon}.go `AttachFanRpmCurveData`, `ComputePwmBoundaries`)

  Props/C15.lean is about WHICH analysis steps a start takes (the decision model `Fan2go.Startup`). The theorems
  here are about the data-carrying model `Fan2go.Analysis` (Model/Analysis.lean): the PWM map, the distinct
  targets, the measured RPM curve, the stored entries and the limits derived from them, for a device with
  response function `resp` (a written value `v` shows up as `resp v`) and RPM characteristic `rpmOf`; the
  harness's devices are `resp = quantResp q` (`v ↦ ⌊v/q⌋·q`, identity for q ≤ 1), `rpmOf = harnessRpm spinAt`
  (10 RPM per step from register value `spinAt` on). Every read succeeds and every write is applied (failing
  I/O: C09). They discharge what the other properties assume about the analysis:
    * C01 / C12 quantify over PWM maps with `MapOk` – `C15_map_reflects_device` proves it of the swept map;
    * C05 assumes `ReadsBack.idem` ("the fan reads back every output of the PWM map") – `C15_map_readsBack`;
    * the decision model's input `devOk` ("the measurement delivers") – `C15_curve_delivers` makes it a
      theorem for these devices;
    * C13's `specStart` / `specMax` are evaluated on the measured curve – `C15_curve_limits`.
  Tie: `su.data` / `su.poke` / `su.settle` of the `su` stream (go/harness/startup.go runs the REAL code and
  prints the stored map, the stored curve, the limits a fresh fan derives from it and the device registers;
  Driver/StartupStream.lean prints the same from `startD` / `initD` / `resetD` / `limitsOf` / `settle`).
  `C15_data_refines`: erasing the data of these runs gives exactly the decision model's runs, so Props/C15.lean
  and Props/C16.lean speak about them too.
-/
import Fan2go.Proofs.AnalysisRuns
import Fan2go.Proofs.AnalysisAbs
import Fan2go.Proofs.AnalysisSettle
namespace Fan2go
open Startup Analysis F64

/-- `computePwmMapAutomatically` on a device whose PWM value can be read: whatever state the device is in, the
    computed map is `{i ↦ resp i | i ∈ 0..255}`. -/
theorem C15_map_sweep (ph : Phys) (r : Regs) : (sweep ph r).2 = sweptMap ph.resp := sweep_map ph r

/-- … and for a fan WITHOUT PWM read support the map `InterpolateLinearlyInt({0:0, 255:255}, 0, 255)` – the keys
    1..254 through `Ratio`, the multiply-add and the `float64(float32(·))` hop of the `F64` model (0 and 255 are
    the knots); the hop absorbs the binary64 roundings, `segQ_exact` – is the identity on 0..255 for every value of
    the implementation-defined `int(NaN)`; so is the built-in RPM curve of file / cmd fans (`InterpolateLinearly`). -/
theorem C15_map_default_identity (indef : Int) :
    defaultPwmMap indef = sweptMap id ∧ fileCurve = floatIdent ∧
    interpolateLinearly [(0, ofInt 0), (255, ofInt 255)] 0 255 = .ok floatIdent :=
  ⟨defaultPwmMap_eq indef, fileCurve_eq, interpolate_identity⟩

/-- The first `Run` (nothing stored) and every `fan init` of a hwmon fan with RPM input, readable PWM and no
    configured map, on a device with an idempotent response inside 0..255: the STORED and the USED map are the
    device's response on every key; the map is well-formed (`MapOk`: C01 / C12) and the device reads back each
    of its outputs (`ReadsBack.idem`: C05); the controller's targets are the distinct keys of that map. -/
theorem C15_map_reflects_device (indef : Int) (ph : Phys) (hn : ph.Nice) (cfg : FanCfg)
    (hk : cfg.kind = .hwmon) (hr : cfg.hasRpm = true) (hpr : cfg.pwmRead = true) (hcm : cfg.cfgMap = none)
    (st : DStore) (hsr : st.rpm = none) (hsm : st.map = none) (r : Regs) :
    (∀ o, o = startD indef ph cfg st r ∨ o = initD indef ph cfg r →
      o.ok = true ∧
      o.store.map = some (.swept, sweptMap ph.resp) ∧ o.ctl.pwmMap = some (.swept, sweptMap ph.resp) ∧
      o.ctl.distinct = extractKeys (sweptMap ph.resp) ∧
      ∀ k, 0 ≤ k → k ≤ 255 → o.ctl.mapping k = ph.resp k) ∧
    MapOk (sweptMap ph.resp) ∧ ∀ p ∈ sweptMap ph.resp, ph.resp p.2 = p.2 := by
  refine ⟨?_, sweptMap_mapOk _ hn.range, sweptMap_idem _ (fun v _ _ => hn.idem v)⟩
  intro o ho
  have hS : Swept ph o := by
    rcases ho with rfl | rfl
    · exact startD_swept indef ph hn cfg hk hr hpr hcm st hsr hsm r
    · exact (initD_swept indef ph hn cfg hk hr hpr hcm r).1
  exact ⟨hS.ok, hS.map, hS.ctlMap, hS.distinct, fun k k0 k1 => by
    simp only [CtlSt.mapping, hS.ctlMap]; exact mapGet_sweptMap _ k0 k1⟩

/-- the same for a file / cmd fan (no measurement: the built-in curve is stored) -/
theorem C15_map_reflects_device_file (indef : Int) (ph : Phys) (cfg : FanCfg) (hk : cfg.kind ≠ .hwmon)
    (hpr : cfg.pwmRead = true) (hcm : cfg.cfgMap = none)
    (st : DStore) (hsr : st.rpm = none) (hsm : st.map = none) (r : Regs) :
    let o := startD indef ph cfg st r
    o.ok = true ∧ o.store.map = some (.swept, sweptMap ph.resp) ∧ o.store.rpm = some fileCurve ∧
    o.ctl.pwmMap = some (.swept, sweptMap ph.resp) ∧ o.ctl.distinct = extractKeys (sweptMap ph.resp) := by
  rw [startD_other indef ph cfg r hsr hk, curveOf_other hk,
    runTailD_attached indef ph cfg _ _ _ rfl (attach_other indef _ (newFan_kind_ne cfg hk) _),
    lockedD_swept indef ph cfg cfg.newFan (ctl0 cfg r) { st with rpm := some fileCurve } r hpr hcm rfl hsm]
  exact ⟨rfl, rfl, rfl, rfl, rfl⟩

/-- In the vocabulary of the controller properties (Spec/Controller.lean): a world whose controller works with
    the swept map of its own device, reads and writes succeeding, satisfies C05's device contract `ReadsBack`
    as soon as the device's response is idempotent – and its map is `MapOk` when the response stays in 0..255. -/
theorem C15_map_readsBack (w : World) (hpr : w.dev.pwmRead = .ok) (hpw : w.dev.pwmWrite = .applied)
    (hmr : w.dev.modeRead = .ok) (hmw : w.dev.modeWrite = .applied)
    (hmap : w.ctl.pwmMap = some (sweptMap w.dev.resp.apply))
    (hidem : ∀ v, 0 ≤ v → v ≤ 255 → w.dev.resp.apply (w.dev.resp.apply v) = w.dev.resp.apply v) :
    ReadsBack w ∧
    ((∀ v, 0 ≤ v → v ≤ 255 → 0 ≤ w.dev.resp.apply v ∧ w.dev.resp.apply v ≤ 255) →
      ∃ m, w.ctl.pwmMap = some m ∧ MapOk m) := by
  refine ⟨⟨hpr, hpw, hmr, hmw, ?_⟩, fun h => ⟨_, hmap, sweptMap_mapOk _ h⟩⟩
  intro m hm p hp
  rw [hmap] at hm
  have : m = sweptMap w.dev.resp.apply := by simpa using hm.symm
  subst this
  exact sweptMap_idem _ hidem p hp

/-- the identity and every quantiser of Model/Fan.lean are idempotent and stay in 0..255 -/
theorem C15_map_quant_idem (q v : Int) :
    (DevResp.quant q).apply ((DevResp.quant q).apply v) = (DevResp.quant q).apply v ∧
    DevResp.identity.apply (DevResp.identity.apply v) = DevResp.identity.apply v ∧
    quantResp q (quantResp q v) = quantResp q v ∧
    (0 ≤ v → v ≤ 255 → 0 ≤ quantResp q v ∧ quantResp q v ≤ 255) := by
  refine ⟨?_, rfl, quantResp_idem q v, fun h0 h1 => ?_⟩
  · simp only [DevResp.apply]
    split
    · rfl
    · next h => rw [Int.mul_ediv_cancel _ (by omega)]
  · have := quantResp_range q h0; exact ⟨this.1, by omega⟩

example : sweptMap (quantResp 64) ≠ sweptMap id ∧ mapGet (sweptMap (quantResp 64)) 100 = 64 ∧
    mapGet (sweptMap (quantResp 3)) 100 = 99 := by decide

/-- `updateDistinctPwmValues` after a sweep: key 0 and every key at which the device's response changes – the
    first key of each run of equal outputs (responses ≠ −1, the sentinel of `ExtractKeysWithDistinctValues`). -/
theorem C15_distinct_first_of_runs (resp : Int → Int) (h : ∀ v, 0 ≤ v → v ≤ 255 → resp v ≠ -1) :
    extractKeys (sweptMap resp) =
      ((List.range 256).filter fun (i : Nat) => decide (i = 0 ∨ resp ((i : Int) - 1) ≠ resp (i : Int))).map
        (fun (i : Nat) => (i : Int)) :=
  extractKeys_sweptMap resp h

/-- … for the quantiser `q`: exactly the multiples of `q` below 256, ascending (every value for `q ≤ 1`). -/
theorem C15_distinct_targets (q : Int) :
    extractKeys (sweptMap (quantResp q)) =
      ((List.range 256).filter fun (i : Nat) => decide (q ≤ 1) || decide (q ∣ (i : Int))).map
        (fun (i : Nat) => (i : Int)) ∧
    (∀ k, k ∈ extractKeys (sweptMap (quantResp q)) ↔ 0 ≤ k ∧ k ≤ 255 ∧ (q ≤ 1 ∨ q ∣ k)) ∧
    (extractKeys (sweptMap (quantResp q))).Pairwise (· < ·) ∧
    (∀ k ∈ extractKeys (sweptMap (quantResp q)), quantResp q k = k) :=
  ⟨extractKeys_sweptMap_quant q, mem_targets_quant q, extractKeys_sorted _ (sweptMap_sorted _),
   fun _ hk => quantResp_target hk⟩

example : extractKeys (sweptMap (quantResp 32)) = [0, 32, 64, 96, 128, 160, 192, 224] ∧
    extractKeys (sweptMap (quantResp 3)) = (List.range 86).map (fun (i : Nat) => (3 * i : Int)) ∧
    (extractKeys (sweptMap (quantResp 0))).length = 256 := by decide +kernel

/-- The measurement loop, for ANY map `m` in the controller (swept, stored, configured) with its distinct
    targets: it never fails, and the recorded curve is `measSpec`: per target `k`, in ascending order –
    readable PWM: nothing is written if the register already shows `m[k]` (point recorded), otherwise `m[k]` is
    written and the point is recorded iff the device reads it back; unreadable PWM: `m[k]` is always written
    and the point is recorded iff `m[k] = k` – each recorded point with the RPM register after the step. -/
theorem C15_curve_spec (ph : Phys) (cfg : FanCfg) (fan : FanSt) (src : MapSrc) (m : List (Int × Int))
    (hm : m.Pairwise (fun a b => a.1 < b.1)) (c : CtlSt) (hc : c.pwmMap = some (src, m))
    (hd : c.distinct = extractKeys m) (r : Regs) :
    let o := measureLoop ph cfg fan c.distinct c r []
    o.res = .ok () ∧ o.data = (measSpec ph cfg.pwmRead m (extractKeys m) r).2 ∧
    o.regs = (measSpec ph cfg.pwmRead m (extractKeys m) r).1 :=
  measureLoop_targets ph cfg fan src m hm c hc hd r

/-- On a device with an idempotent response, started from a state the device can be in: the key set of the
    measured curve is exactly the set of targets whose map output the device reads back, each with the RPM the
    fan settles at for that output; targets are never invented (`Sublist`), and a target that is read back is
    never lost – from ANY register state. -/
theorem C15_curve_keys (ph : Phys) (m : List (Int × Int)) (ks : List Int) (r : Regs) :
    ((∀ v, ph.resp (ph.resp v) = ph.resp v) → ph.resp r.pwm = r.pwm → r.rpm = ph.rpmOf r.pwm →
      (measSpec ph true m ks r).2 =
        (ks.filter fun k => decide (ph.resp (mapGet m k) = mapGet m k)).map
          (fun k => (k, ofInt (ph.rpmOf (mapGet m k))))) ∧
    ((measSpec ph true m ks r).2.map Prod.fst).Sublist ks ∧
    (∀ k ∈ ks, ph.resp (mapGet m k) = mapGet m k → k ∈ (measSpec ph true m ks r).2.map Prod.fst) :=
  ⟨fun hi h1 h2 => (measSpec_idem ph m hi ks r ⟨h1, h2⟩).1, measSpec_sublist ph true m ks r,
   measSpec_complete ph m ks r⟩

/-- The first `Run` / `fan init` of the fan of `C15_map_reflects_device`: the curve attached and STORED is
    `sweptCurve`: every distinct target `k` of the swept map with `rpmOf (resp k)` – never empty, so
    `AttachFanRpmCurveData` accepts it: the decision model's assumption `devOk` is a theorem here, no panic site
    is reached, and `Run` goes on to regulation. -/
theorem C15_curve_delivers (indef : Int) (ph : Phys) (hn : ph.Nice) (cfg : FanCfg)
    (hk : cfg.kind = .hwmon) (hr : cfg.hasRpm = true) (hpr : cfg.pwmRead = true) (hcm : cfg.cfgMap = none)
    (st : DStore) (hsr : st.rpm = none) (hsm : st.map = none) (r : Regs) :
    (startD indef ph cfg st r).store.rpm = some (sweptCurve ph) ∧ (startD indef ph cfg st r).ok = true ∧
    (startD indef ph cfg st r).crash = none ∧
    (initD indef ph cfg r).store.rpm = some (sweptCurve ph) ∧ (initD indef ph cfg r).devOk = true ∧
    (initD indef ph cfg r).crash = none ∧
    sweptCurve ph ≠ [] ∧
    (sweptCurve ph).map Prod.fst = extractKeys (sweptMap ph.resp) := by
  have hS := startD_swept indef ph hn cfg hk hr hpr hcm st hsr hsm r
  obtain ⟨hI, hdev⟩ := initD_swept indef ph hn cfg hk hr hpr hcm r
  refine ⟨hS.rpm, hS.ok, hS.crash, hI.rpm, hdev, hI.crash, sweptCurve_ne_nil ph, ?_⟩
  simp [sweptCurve, List.map_map, Function.comp_def]

/-- The limits the next `Run` derives from the stored curve (`LoadFanPwmData` + `AttachFanRpmCurveData` on a
    fresh fan): configured values win; the others are C13's `specStart` / `specMax` of the stored curve. For the
    curve of a harness device (quantiser `q`, rotation from register value `spinAt` on) with top target
    `T = ⌊255/q⌋·q` (255 for `q ≤ 1`): if the top target rotates (`spinAt ≤ T`, `0 < T`) then max PWM = `T` and
    start PWM = the spin threshold rounded up to a target (the lowest positive target ≥ `spinAt`); if it does
    not, both are 255. -/
theorem C15_curve_limits (indef q s : Int) (cfg : FanCfg) (hk : cfg.kind = .hwmon) :
    let d := sweptCurve (harnessPhys q s)
    let T := topTarget q
    limitsOf indef cfg d = some
      (if cfg.neverStop then
          cfg.cfgMin.getD (if cfg.cfgStart.getD 255 < 255 then cfg.cfgStart.getD 255 else specStart indef d)
        else 0,
       cfg.cfgStart.getD (specStart indef d), cfg.cfgMax.getD (specMax indef d)) ∧
    (s ≤ T ∧ 0 < T →
      specMax indef d = T ∧
      specStart indef d ∈ extractKeys (sweptMap (quantResp q)) ∧ s ≤ specStart indef d ∧ 0 < specStart indef d ∧
      ∀ k ∈ extractKeys (sweptMap (quantResp q)), s ≤ k → 0 < k → specStart indef d ≤ k) ∧
    (¬ (s ≤ T ∧ 0 < T) → specStart indef d = 255 ∧ specMax indef d = 255) :=
  ⟨limitsOf_hwmon indef cfg hk _ (sweptCurve_ne_nil _) (sweptCurve_sorted _) (sweptCurve_le255 _),
   fun h => harnessPhys_limits indef h.1 h.2, harnessPhys_limits_none indef⟩

/-- file / cmd fans: constant limits 0 / 1 / 255 whatever is stored -/
theorem C15_curve_limits_file (indef : Int) (cfg : FanCfg) (hk : cfg.kind ≠ .hwmon) (d : List (Int × F64)) :
    limitsOf indef cfg d = some (0, 1, 255) := by
  unfold limitsOf
  rw [attach_other indef _ (newFan_kind_ne cfg hk)]
  cases hkind : cfg.kind with
  | hwmon => exact absurd hkind hk
  | file | cmd => simp [FanSt.getMin, FanSt.getStart, FanSt.getMax, newFan_kind, hkind, fanKind]

/-- non-vacuity, quantiser 32, rotation from 40 on: targets 0, 32, …, 224; start 64, max 224 – for every `indef` -/
example (indef : Int) :
    specMax indef (sweptCurve (harnessPhys 32 40)) = 224 ∧ specStart indef (sweptCurve (harnessPhys 32 40)) = 64 := by
  have hT : topTarget 32 = 224 := by decide
  obtain ⟨-, h, _⟩ := C15_curve_limits indef 32 40 {} rfl
  rw [hT] at h
  obtain ⟨h1, h2, h3, h4, h5⟩ := h ⟨by norm_num, by norm_num⟩
  refine ⟨h1, ?_⟩
  have hm : (64 : Int) ∈ extractKeys (sweptMap (quantResp 32)) := by decide
  have hle := h5 64 hm (by norm_num) (by norm_num)
  -- the start PWM is a multiple of 32, at least 40 and at most 64
  obtain ⟨_, _, hc | ⟨c, hc⟩⟩ := (mem_targets_quant 32 _).mp h2 <;> omega

/-- On a stable device (every poll reads the same RPM `r`) with an integer threshold `t ≥ 1`
    (`maxRpmDiffForSettledFan`; default 20, which the harness uses too) the wait ends: after exactly 10 polls when
    `|r| < t`, after 11 otherwise (the first difference is the RPM itself: it has to leave the 10-point window) –
    on the `F64` model, window of 10 filled with `2·t`. -/
theorem C15_settle_terminates (t r : Int) (ht : 0 < t) (htb : t ≤ 2 ^ 50) (hr : |r| ≤ 2 ^ 50) (f : Nat) :
    settle (ofInt t) (fun _ => some r) (f + 11) = some (if |r| < t then 10 else 11) := by
  -- 2^50: the bound under which `settle_sim` replaces the float loop by the integer loop
  rw [ofInt_small (n := t) (by rw [abs_le]; constructor <;> omega),
    settle_sim t (by rw [abs_le]; constructor <;> omega) _ (by intro n v h; simp at h; rw [← h]; exact hr)]
  exact settleI_stable t r ht f

/-- FINDING (outside C15's quantifier): with `maxRpmDiffForSettledFan: 0` the wait never ends, whatever the fan
    does; neither does it for an RPM input that fails on every read (`continue` without progress). -/
theorem C15_settle_can_hang (rd : Nat → Option Int) (hrd : ∀ n v, rd n = some v → |v| ≤ 2 ^ 50) (fuel : Nat) :
    settle (ofInt 0) rd fuel = none ∧ settle (ofInt 20) (fun _ => none) fuel = none := by
  refine ⟨?_, settle_unreadable _ (by decide +kernel) fuel⟩
  rw [ofInt_small (n := 0) (by norm_num), settle_sim 0 (by norm_num) rd hrd]
  exact settleI_zero rd fuel 0 _ 0 0 _ (by norm_num) (by intro x hx; rw [List.eq_of_mem_replicate hx]; norm_num)

example : settle (ofInt 20) (fun _ => some 0) 50 = some 10 ∧ settle (ofInt 20) (fun _ => some 640) 50 = some 11 ∧
    settle (ofInt 20) (fun n => some (if n < 3 then 100 * n else 300)) 50 = some 14 := by decide +kernel

/-- Erasing the data (`DOut.abs`) of `startD` / `initD` / `resetD` gives exactly `Startup.start` / `init` /
    `reset` on the erased store, with the decision model's input `devOk` instantiated by "the measurement (if
    any) delivered"; stored curves stay attachable (`WF`: a hwmon fan's stored curve is never empty). So every
    theorem of Props/C15.lean and Props/C16.lean about one step of the decision model holds of these runs. -/
theorem C15_data_refines (indef : Int) (ph : Phys) (cfg : FanCfg) (st : DStore) (r : Regs) (hwf : st.WF cfg) :
    (startD indef ph cfg st r).abs = start (cfg.decl (startD indef ph cfg st r).devOk) st.abs ∧
    (startD indef ph cfg st r).store.WF cfg ∧
    (initD indef ph cfg r).abs = init (cfg.decl (initD indef ph cfg r).devOk) st.abs ∧
    (initD indef ph cfg r).store.WF cfg ∧
    (resetD cfg r).abs = reset (cfg.decl true) st.abs ∧ (resetD cfg r).store.WF cfg ∧
    ({} : DStore).WF cfg :=
  ⟨(startD_abs indef ph cfg st r hwf).1, (startD_abs indef ph cfg st r hwf).2,
   (initD_abs indef ph cfg st r).1, (initD_abs indef ph cfg st r).2,
   (resetD_abs cfg r true st).1, (resetD_abs cfg r true st).2, by intro _; simp⟩

/-- e.g. C15's core, on the data-carrying run: a start puts the fan through an analysis only if one of its two
    entries was missing – whatever the device, its registers and the stored contents -/
theorem C15_data_start_analysed_missing (indef : Int) (ph : Phys) (cfg : FanCfg) (st : DStore) (r : Regs)
    (hwf : st.WF cfg) (h : (startD indef ph cfg st r).abs.analysed = true) :
    st.rpm = none ∨ st.map = none := by
  rw [(startD_abs indef ph cfg st r hwf).1] at h
  have := start_analysed_missing _ _ h
  simp only [Store.missing, DStore.abs, Bool.or_eq_true, Bool.not_eq_true', Option.isSome_eq_false_iff,
    Option.isNone_iff_eq_none, Option.map_eq_none_iff] at this
  simpa using this

/-- a full first start of the harness's quantiser-32 fan, evaluated by the kernel: the stored map is the swept
    map, the stored curve has the 8 targets as keys, the run reaches regulation. `indef` is `int(NaN)` of
    amd64, −2^63 (`Driver/Proto.lean` `indefAmd64`); the registers at the end are what `restorePwmEnabled`
    leaves of the defaults of `Regs`: the original PWM 100 written back (the device shows 96, at 960 RPM) and
    the original mode 2. -/
example :
    let o := startD (-9223372036854775808) (harnessPhys 32 40) {} {} {}
    o.ok = true ∧ o.store.map.map (·.2) = some (sweptMap (quantResp 32)) ∧
    o.store.rpm.map (·.map Prod.fst) = some [0, 32, 64, 96, 128, 160, 192, 224] ∧
    o.abs.swept = true ∧ o.abs.measured = true ∧ (o.regs.pwm, o.regs.rpm, o.regs.mode) = (96, 960, 2) := by
  decide +kernel

#print axioms C15_map_sweep
#print axioms C15_map_default_identity
#print axioms C15_map_reflects_device
#print axioms C15_map_reflects_device_file
#print axioms C15_map_readsBack
#print axioms C15_map_quant_idem
#print axioms C15_distinct_first_of_runs
#print axioms C15_distinct_targets
#print axioms C15_curve_spec
#print axioms C15_curve_keys
#print axioms C15_curve_delivers
#print axioms C15_curve_limits
#print axioms C15_curve_limits_file
#print axioms C15_settle_terminates
#print axioms C15_settle_can_hang
#print axioms C15_data_refines
#print axioms C15_data_start_analysed_missing

end Fan2go
