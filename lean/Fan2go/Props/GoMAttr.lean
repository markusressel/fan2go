import Lean.Meta.Tactic.Simp.RegisterCommand
/-- how a translated method runs on a state: the equations of `GoM` (Props/GoMRun.lean) and, for every field of a record
    of operations, whether or not a tie reaches it, the equation saying what it does on the model's state (tagged in the
    record's tie file, ahead of its ties). Left out, and named so at the `attribute [gom]` line: equations restated on
    erased states, and the second name of an equation that stands under two. Ties of methods, facts about the device
    and about Go's semantics are named at each call. -/
register_simp_attr gom
