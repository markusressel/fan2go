/-
  C05 — External interference with a fan is undone within one control cycle; a changed PWM value is
  counted as a third-party change, and nothing is counted while nothing else touches the fan and its
  writes succeed.

  Objects: `updateFanSpeed`, `calculateTargetPwm`, `ensureNoThirdParty`, `ctlSetPwm`, `trySetManualPwm`
  in Model/Controller.lean (= controller.go `UpdateFanSpeed`, `calculateTargetPwm`,
  `ensureNoThirdPartyIsMessingWithUs`, `setPwm`, `trySetManualPwm`; hwmon.go `SetPwmEnabled`).
  Interference = arbitrary values of `w.dev.pwm` / `w.dev.mode` in the pre-state (nothing is assumed
  about them), or an `Ev.env` event in a run.
  All theorems hold for every `indef : Int` and every control loop (`LoopSt`), whose dynamics are never
  unfolded.
-/
import Fan2go.Proofs.ThirdParty
namespace Fan2go

/-- C05 (a). After a control cycle that returns nil, a mode-capable fan is in manual mode and the PWM
    register shows the value the PWM map gives for the nearest supported value of the target that this
    very cycle requested (`Obs.requested t`; in the stall branch that is the incremented target) —
    whatever the PWM register and the mode register held before. -/
theorem C05_reasserted (indef : Int) (w w' : World) (c now : Int) (obs : List Obs)
    (hinv : Inv w) (hrb : ReadsBack w)
    (h : updateFanSpeed indef w (.ok c) now = (w', .ok (), obs)) :
    (supports w.fan w.dev .controlMode = true → w'.dev.mode = 1) ∧
    ∃ t k, Obs.requested t ∈ obs ∧ closestDistinct w'.ctl t = .ok k ∧
      w'.dev.pwm = applyPwmMapping w'.ctl k ∧ w'.ctl.lastSet = some t := by
  obtain ⟨t, o', ht, rfl, hs⟩ := ufs_ok hinv.mapInv hrb h
  have hkp := calc_keeps indef w (.ok c) now
  have hc := calc_cases indef w (.ok c) now
  rw [ht] at hc
  obtain ⟨k, hk, hp⟩ := hs.good.synced t hs.lastSet
  exact ⟨fun hm => hs.manual (by rw [supports_congr hkp.kind, hkp.dev]; exact hm),
    t, k, List.mem_append_left _ (hc.requested_iff.2 rfl), hk, hp, hs.lastSet⟩

/-- C05 (a'), the same as a state predicate: the cycle re-establishes `Synced`, and it does not touch
    the fault switches or the PWM map, so the device contract holds again for the next cycle. -/
theorem C05_reasserted_synced (indef : Int) (w w' : World) (curve : Res Int) (now : Int) (obs : List Obs)
    (hinv : Inv w) (hrb : ReadsBack w)
    (h : updateFanSpeed indef w curve now = (w', .ok (), obs)) :
    Synced w' ∧ ReadsBack w' :=
  have ⟨_, _, _, _, hs⟩ := ufs_ok hinv.mapInv hrb h
  ⟨hs.good.synced, hs.good.rb⟩

/-- the world used in the non-vacuity examples: hwmon fan with `pwmN_enable`, identity PWM map on
    0/128/255, last request 128; a third party has set the register to 77 and the mode to 2 (automatic). -/
def C05_w0 : World :=
  { fan := { kind := .hwmon },
    dev := { pwm := 77, mode := 2 },
    ctl := { lastSet := some 128, pwmMap := some [(0, 0), (128, 128), (255, 255)],
             distinct := #[0, 128, 255] } }

theorem C05_w0_inv : Inv C05_w0 :=
  ⟨by decide, by decide, by decide, by decide,
   ⟨_, rfl, ⟨by decide, by decide, by decide⟩, by decide⟩⟩

theorem C05_w0_readsBack : ReadsBack C05_w0 :=
  ⟨rfl, rfl, rfl, rfl, by intro m hm; cases hm; decide⟩

/-- non-vacuity of `C05_reasserted`: the cycle on the interfered world returns nil, and brings the fan
    from (pwm 77, automatic) to (pwm 255 = map value of the nearest supported target of 200, manual). -/
example : ∃ w' obs, updateFanSpeed 0 C05_w0 (.ok 200) 0 = (w', .ok (), obs) ∧
    w'.dev.mode = 1 ∧ w'.dev.pwm = 255 ∧ w'.ctl.lastSet = some 200 := by
  refine ⟨(updateFanSpeed 0 C05_w0 (.ok 200) 0).1, (updateFanSpeed 0 C05_w0 (.ok 200) 0).2.2, ?_, ?_, ?_, ?_⟩
  · have : (updateFanSpeed 0 C05_w0 (.ok 200) 0).2.1 = .ok () := by decide +kernel
    rw [← this]
  all_goals decide +kernel

/-- C05 (b). In a cycle with a readable PWM register and a previous request `l`, a third-party change
    is reported exactly when the register differs from the value the PWM map gives for the nearest
    supported value of `l`, and the counter `UnexpectedPwmValueCount` goes up by exactly one in that
    case and not at all otherwise. -/
theorem C05_counted (indef : Int) (w : World) (c now l k : Int)
    (hinv : Inv w) (hr : w.dev.pwmRead = .ok) (hl : w.ctl.lastSet = some l)
    (hk : closestDistinct w.ctl l = .ok k) :
    (Obs.thirdParty ∈ (calculateTargetPwm indef w (.ok c) now).2.2 ↔
        w.dev.pwm ≠ applyPwmMapping w.ctl k) ∧
    (calculateTargetPwm indef w (.ok c) now).1.ctl.unexpectedCount =
        w.ctl.unexpectedCount + (if w.dev.pwm ≠ applyPwmMapping w.ctl k then 1 else 0) :=
  calc_counted indef w c now hinv.mapInv hr hl hk

/-- every state before the first request is `Synced` -/
theorem C05_synced_initially (w : World) (h : w.ctl.lastSet = none) : Synced w := .of_none h

/-- C05 (b'). Before the first request (`lastSetPwm == nil`) nothing is compared and nothing counted. -/
theorem C05_counted_none (indef : Int) (w : World) (curve : Res Int) (now : Int)
    (hl : w.ctl.lastSet = none) :
    Obs.thirdParty ∉ (calculateTargetPwm indef w curve now).2.2 ∧
    (calculateTargetPwm indef w curve now).1.ctl.unexpectedCount = w.ctl.unexpectedCount :=
  calc_synced indef w curve now (C05_synced_initially w hl)

/-- C05 (b''). The same for the whole cycle as seen from outside: report in the cycle's observations
    and counter in the post-state (the rest of `UpdateFanSpeed` neither reports nor counts). -/
theorem C05_counted_cycle (indef : Int) (w w' : World) (c now l k : Int) (obs : List Obs)
    (hinv : Inv w) (hrb : ReadsBack w) (hl : w.ctl.lastSet = some l)
    (hk : closestDistinct w.ctl l = .ok k)
    (h : updateFanSpeed indef w (.ok c) now = (w', .ok (), obs)) :
    (Obs.thirdParty ∈ obs ↔ w.dev.pwm ≠ applyPwmMapping w.ctl k) ∧
    w'.ctl.unexpectedCount =
      w.ctl.unexpectedCount + (if w.dev.pwm ≠ applyPwmMapping w.ctl k then 1 else 0) := by
  obtain ⟨h1, h2⟩ := calc_counted indef w c now hinv.mapInv hrb.pwmRead hl hk
  obtain ⟨t, o', -, rfl, hs⟩ := ufs_ok hinv.mapInv hrb h
  refine ⟨?_, hs.count.trans h2⟩
  rw [← h1, List.mem_append]
  exact ⟨fun hh => hh.elim id (fun x => absurd x hs.quiet), .inl⟩

/-- non-vacuity of `C05_counted`: on the interfered world the change is reported and counted once;
    on the same world with the register at the expected 128 it is not. -/
example : Obs.thirdParty ∈ (calculateTargetPwm 0 C05_w0 (.ok 200) 0).2.2 ∧
    (calculateTargetPwm 0 C05_w0 (.ok 200) 0).1.ctl.unexpectedCount = 1 ∧
    Obs.thirdParty ∉ (calculateTargetPwm 0 { C05_w0 with dev := { pwm := 128 } } (.ok 200) 0).2.2 ∧
    (calculateTargetPwm 0 { C05_w0 with dev := { pwm := 128 } } (.ok 200) 0).1.ctl.unexpectedCount = 0 := by
  decide +kernel

/-- C05 (c), one cycle. From a state in which the register shows what the last request dictates, a
    cycle reports no third-party change, leaves the counter alone, and ends in such a state again. -/
theorem C05_no_false_count_step (indef : Int) (w w' : World) (curve : Res Int) (now : Int)
    (obs : List Obs) (hinv : Inv w) (hrb : ReadsBack w) (hs : Synced w)
    (h : updateFanSpeed indef w curve now = (w', .ok (), obs)) :
    Obs.thirdParty ∉ obs ∧ Synced w' ∧ ReadsBack w' ∧
    w'.ctl.unexpectedCount = w.ctl.unexpectedCount := by
  have hg : Good w := ⟨hinv.mapInv, hrb, hs⟩
  obtain ⟨hc, hn, hgood⟩ := hg.step (indef := indef) (.cycle curve now) (by intro d; simp)
  rw [stepEv_cycle, h] at hc hn hgood
  exact ⟨hn, (hgood rfl).synced, (hgood rfl).rb, hc⟩

/-- C05 (c), a cycle that ends regulation (error or panic of `UpdateFanSpeed`) does not count either;
    `Synced` alone suffices for that. -/
theorem C05_no_false_count_any (indef : Int) (w : World) (curve : Res Int) (now : Int) (hs : Synced w) :
    Obs.thirdParty ∉ (calculateTargetPwm indef w curve now).2.2 ∧
    (calculateTargetPwm indef w curve now).1.ctl.unexpectedCount = w.ctl.unexpectedCount :=
  calc_synced indef w curve now hs

/-- C05 (c), the RPM monitor's `measureRpm` touches neither the device nor the controller state. -/
theorem C05_poll_preserves (indef : Int) (w : World) (hrb : ReadsBack w) (hs : Synced w)
    (hm : MapInv w.ctl) :
    Synced (measureRpm indef w) ∧ ReadsBack (measureRpm indef w) ∧ MapInv (measureRpm indef w).ctl ∧
    (measureRpm indef w).ctl.unexpectedCount = w.ctl.unexpectedCount :=
  let g := Good.poll (indef := indef) ⟨hm, hrb, hs⟩
  ⟨g.synced, g.rb, g.map, by rw [measureRpm_ctl]⟩

/-- C05 (c), runs. Start from a state that satisfies the invariant and the device contract and in which
    the register shows what the last request dictates (in particular: any state before the first request).
    Along EVERY finite run of control cycles (any curve values, any clock readings, including cycles that
    fail and end the run) and RPM polls — i.e. no `Ev.env`: nothing else touches the fan, and the fault
    switches stay as they are because cycles and polls never change them — no third-party change is ever
    reported and the counter at the end equals the counter at the start. -/
theorem C05_no_false_count_run (indef : Int) (w0 : World) (es : List Ev)
    (hinv : Inv w0) (hrb : ReadsBack w0) (hs : Synced w0)
    (hes : ∀ e ∈ es, ∀ d, e ≠ .env d) :
    (runFinal indef w0 es).ctl.unexpectedCount = w0.ctl.unexpectedCount ∧
    ∀ x ∈ runEvs indef w0 es, Obs.thirdParty ∉ x.2.2.obs := by
  -- `Good` with the start's counter is carried across successful steps; a failing last step still
  -- neither counts nor reports (`Good.step`)
  have ht := run_trace indef (es := es)
    (P := fun v => Good v ∧ v.ctl.unexpectedCount = w0.ctl.unexpectedCount)
    (fun v e he ⟨g, c⟩ hr => have ⟨a, _, b⟩ := g.step (indef := indef) e (hes e he); ⟨b hr, a.trans c⟩)
    ⟨⟨hinv.mapInv, hrb, hs⟩, rfl⟩
  have hall : ∀ x ∈ runEvs indef w0 es,
      x.2.2.w.ctl.unexpectedCount = w0.ctl.unexpectedCount ∧ Obs.thirdParty ∉ x.2.2.obs := fun x hx => by
    obtain ⟨⟨g, c⟩, hm, hs⟩ := ht x hx
    obtain ⟨a, b, -⟩ := g.step (indef := indef) x.2.1 (hes _ hm)
    rw [hs]; exact ⟨a.trans c, b⟩
  refine ⟨?_, fun x hx => (hall x hx).2⟩
  rcases run_final_mem indef w0 es with h | ⟨x, hx, h⟩ <;> rw [h]
  exact (hall x hx).1

/-- non-vacuity of `C05_no_false_count_run`: a start state satisfying all three hypotheses, and a run of
    four events that is executed to its end (three cycles with different curve values and a poll). -/
example : Inv { C05_w0 with ctl := { C05_w0.ctl with lastSet := none } } ∧
    ReadsBack { C05_w0 with ctl := { C05_w0.ctl with lastSet := none } } ∧
    Synced { C05_w0 with ctl := { C05_w0.ctl with lastSet := none } } ∧
    (runEvs 0 { C05_w0 with ctl := { C05_w0.ctl with lastSet := none } }
      [.cycle (.ok 200) 0, .poll, .cycle (.ok 10) 1, .cycle (.ok 90) 2]).length = 4 ∧
    (runFinal 0 { C05_w0 with ctl := { C05_w0.ctl with lastSet := none } }
      [.cycle (.ok 200) 0, .poll, .cycle (.ok 10) 1, .cycle (.ok 90) 2]).dev.pwm = 128 :=
  ⟨C05_w0_inv.of_same (FanSame.refl _) rfl rfl rfl, ⟨rfl, rfl, rfl, rfl, C05_w0_readsBack.idem⟩,
    C05_synced_initially _ rfl, by decide +kernel, by decide +kernel⟩

/-- the hypothesis "no `env` event" cannot be dropped: one external write between two cycles is counted. -/
example : (runFinal 0 { C05_w0 with ctl := { C05_w0.ctl with lastSet := none } }
      [.cycle (.ok 200) 0, .env { pwm := 3, mode := 2 }, .cycle (.ok 200) 1]).ctl.unexpectedCount = 1 ∧
    (runFinal 0 { C05_w0 with ctl := { C05_w0.ctl with lastSet := none } }
      [.cycle (.ok 200) 0, .env { pwm := 3, mode := 2 }, .cycle (.ok 200) 1]).dev.pwm = 255 ∧
    (runFinal 0 { C05_w0 with ctl := { C05_w0.ctl with lastSet := none } }
      [.cycle (.ok 200) 0, .env { pwm := 3, mode := 2 }, .cycle (.ok 200) 1]).dev.mode = 1 := by
  decide +kernel

#print axioms C05_reasserted
#print axioms C05_reasserted_synced
#print axioms C05_counted
#print axioms C05_counted_none
#print axioms C05_counted_cycle
#print axioms C05_no_false_count_step
#print axioms C05_no_false_count_any
#print axioms C05_poll_preserves
#print axioms C05_no_false_count_run
#print axioms C05_synced_initially
#print axioms C05_w0_inv
#print axioms C05_w0_readsBack

end Fan2go
