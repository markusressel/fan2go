/-
  C10 — A stalled never-stop fan is noticed and pushed within a bounded time.

  For ALL `indef`, ALL worlds satisfying `Inv`. "The computed target" of a cycle is
  `computedTarget indef w cv l now` = the loop output (ANY loop, never unfolded), clamped to 0..255 and
  rescaled into `[floor, max]`; "the request is unchanged" is the hypothesis
  `computedTarget indef w cv l now = l` with `l` the last request.
-/
import Fan2go.Proofs.Stall
import Fan2go.Props.C02
namespace Fan2go
open F64

/-- Stalled below the maximum: the request goes up by one, the offset (hence the floor) goes up by
    one, the average is reset to 1, a raise is announced, `Inv` is kept. -/
theorem C10_stall_raises (indef : Int) (w : World) (cv now l : Int) (hinv : Inv w)
    (hrpm : supports w.fan w.dev .rpmSensor = true) (hns : w.fan.neverStop = true)
    (hl : w.ctl.lastSet = some l) (hT : computedTarget indef w cv l now = l)
    (havg : toInt indef w.fan.getRpmAvg ≤ 0) (hlt : l < w.fan.getMax) :
    ∃ w' obs, calculateTargetPwm indef w (.ok cv) now = (w', .ok (l + 1), obs) ∧
      w'.ctl.offset = w.ctl.offset + 1 ∧ w'.floor = w.floor + 1 ∧
      w'.fan.getRpmAvg = F64.fin 1 ∧
      Obs.raised w.floor (w.floor + 1) ∈ obs ∧ Obs.requested (l + 1) ∈ obs ∧ Inv w' :=
  calc_stall_raises hinv indef cv now l ((stalled_iff ..).2 ⟨hrpm, hns, hl, havg⟩) hT hlt

example (indef : Int) : ∃ w' obs, calculateTargetPwm indef exStalled (.ok 0) 0 = (w', .ok 31, obs) ∧
    Obs.raised 30 31 ∈ obs := exStalled_raises indef

/-- The same for the plain direct loop and a byte curve value `c`: the computed target is
    `rescale indef c floor max`. -/
theorem C10_stall_raises_direct (indef : Int) (w : World) (c now l : Int) (hinv : Inv w)
    (hloop : w.ctl.loop = .direct none) (hc : 0 ≤ c ∧ c ≤ 255)
    (hrpm : supports w.fan w.dev .rpmSensor = true) (hns : w.fan.neverStop = true)
    (hl : w.ctl.lastSet = some l) (hT : rescale indef c w.floor w.fan.getMax = l)
    (havg : toInt indef w.fan.getRpmAvg ≤ 0) (hlt : l < w.fan.getMax) :
    ∃ w' obs, calculateTargetPwm indef w (.ok c) now = (w', .ok (l + 1), obs) ∧
      w'.ctl.offset = w.ctl.offset + 1 ∧ w'.fan.getRpmAvg = F64.fin 1 := by
  obtain ⟨w', obs, h, h1, -, h3, -⟩ := C10_stall_raises indef w c now l hinv hrpm hns hl
    (by rw [computedTarget_direct_none indef c l now hloop hc.1 hc.2]; exact hT) havg hlt
  exact ⟨w', obs, h, h1, h3⟩

example (indef : Int) : ∃ w' obs, calculateTargetPwm indef exStalled (.ok 0) 0 = (w', .ok (30 + 1), obs) ∧
    w'.ctl.offset = exStalled.ctl.offset + 1 ∧ w'.fan.getRpmAvg = F64.fin 1 :=
  C10_stall_raises_direct indef exStalled 0 0 30 exStalled_inv rfl ⟨le_refl _, by norm_num⟩ rfl rfl rfl
    (rescale_zero indef 30 200 (by norm_num) (by norm_num) (by norm_num))
    (exStalled_avg indef) (by decide)

/-- Stalled at (or above) the maximum: `ErrFanStalledAtMaxPwm`; `UpdateFanSpeed` returns it and
    regulation of this fan ends. -/
theorem C10_stalled_at_max (indef : Int) (w : World) (cv now l : Int) (hinv : Inv w)
    (hrpm : supports w.fan w.dev .rpmSensor = true) (hns : w.fan.neverStop = true)
    (hl : w.ctl.lastSet = some l) (hT : computedTarget indef w cv l now = l)
    (havg : toInt indef w.fan.getRpmAvg ≤ 0) (hge : w.fan.getMax ≤ l) :
    (∃ w' obs, calculateTargetPwm indef w (.ok cv) now = (w', .err "stalled-at-max", obs) ∧
      Obs.stalledAtMax ∈ obs) ∧
    (stepEv indef w (.cycle (.ok cv) now)).result = .err "stalled-at-max" := by
  obtain ⟨wm, obs0, -, hs, h⟩ :=
    calc_stalled hinv indef cv now l ((stalled_iff ..).2 ⟨hrpm, hns, hl, havg⟩) hT
  rw [stallBranch_atMax hs hge] at h
  exact ⟨⟨_, _, h, by simp⟩, by rw [stepEv_cycle, ufs_eq, h]⟩

/-- a fan whose floor has been raised up to its maximum -/
def exAtMax : World :=
  { exStalled with ctl := { exStalled.ctl with offset := 170, lastSet := some 200 } }

theorem exAtMax_inv : Inv exAtMax :=
  exStalled_inv.transfer rfl rfl rfl rfl (by decide) (by decide)

/-- Once the floor has reached the maximum the computed target IS the maximum, for every curve value
    and every loop; a fan still stalled there yields the error. -/
theorem C10_stalled_when_floor_at_max (indef : Int) (w : World) (cv now : Int) (hinv : Inv w)
    (hfl : w.floor = w.fan.getMax)
    (hrpm : supports w.fan w.dev .rpmSensor = true) (hns : w.fan.neverStop = true)
    (hl : w.ctl.lastSet = some w.fan.getMax) (havg : toInt indef w.fan.getRpmAvg ≤ 0) :
    (stepEv indef w (.cycle (.ok cv) now)).result = .err "stalled-at-max" := by
  have hr := computedTarget_range hinv indef cv w.fan.getMax now
  exact (C10_stalled_at_max indef w cv now _ hinv hrpm hns hl (by omega) havg (le_refl _)).2

example (indef : Int) (cv now : Int) :
    (stepEv indef exAtMax (.cycle (.ok cv) now)).result = .err "stalled-at-max" :=
  C10_stalled_when_floor_at_max indef exAtMax cv now exAtMax_inv rfl rfl rfl rfl (exStalled_avg indef)

/-- file/cmd fans notice a stall after ONE poll: their "average" is the last reading. -/
theorem C10_filecmd_poll_zero (indef : Int) (w : World) (hk : w.fan.kind ≠ .hwmon)
    (hhas : w.dev.hasRpm = true) (hread : w.dev.rpmRead = .ok) (hrpm : w.dev.rpm = 0)
    (hn : 1 ≤ w.rpmWindow) :
    toInt indef (measureRpm indef w).fan.getRpmAvg ≤ 0 := by
  have h0 := toInt_fin_zero indef
  rw [measureRpm_getRpmAvg indef w hhas hread, if_neg hk, hrpm, ofInt_zero,
    show updateSimpleMovingAvg (F64.fin 0) w.rpmWindow (F64.fin 0) = F64.fin 0 from upd_self hn fin64_zero,
    h0, ofInt_zero, h0]

example (indef : Int) :
    toInt indef (measureRpm indef { exStalled with fan := { exStalled.fan with kind := .file, rpmInt := 1200 } }).fan.getRpmAvg ≤ 0 :=
  C10_filecmd_poll_zero indef _ (by decide) rfl rfl rfl (by decide)

/-- hwmon fans notice a stall within `16 · rpmRollingWindowSize` polls: from any float64 average in
    `[0, 32768]` RPM, that many consecutive polls reading 0 bring the average below 1.
    (`Rep64 q`: the payload is a float64 – every value the code ever stores in `RpmMovingAvg` is.
    The bounds are those of `hwmon_decay`: `n` polls at least halve the average, so `16·n` bring `2^15`
    to `1/2`; each float64 update is off by at most `2^-33`, these errors add up to at most `n` times
    that, and `n ≤ 2^20` keeps the sum below `2^-12`.) -/
theorem C10_hwmon_notices_within (indef : Int) (w : World) (n : Int) (hn : 1 ≤ n) (hn' : n ≤ 2 ^ 20)
    (hk : w.fan.kind = .hwmon) (hhas : w.dev.hasRpm = true) (hread : w.dev.rpmRead = .ok)
    (hrpm : w.dev.rpm = 0) (hw : w.rpmWindow = n)
    (q : ℚ) (havg : w.fan.getRpmAvg = F64.fin q) (hrep : Rep64 q) (h0 : 0 ≤ q) (hq : q ≤ 2 ^ 15) :
    ∃ q', ((measureRpm indef)^[16 * n.toNat] w).fan.getRpmAvg = F64.fin q' ∧ 0 ≤ q' ∧ q' < 1 ∧
      toInt indef ((measureRpm indef)^[16 * n.toNat] w).fan.getRpmAvg ≤ 0 := by
  rw [measureRpm_iterate_hwmon_zero indef w hk hhas hread hrpm, hw, havg]
  obtain ⟨q', e, l, u⟩ := hwmon_decay hn hn' hrep h0 hq
  exact ⟨q', e, l, u, by rw [e, toInt_fin_lt_one indef l u]⟩

/-- `exStalled` before it stalled: spinning at 1000 RPM -/
def exSpinning : World := { exStalled with fan := { exStalled.fan with rpmAvg := F64.fin 1000 } }

theorem exSpinning_inv : Inv exSpinning := exStalled_inv.of_same ⟨rfl, rfl, rfl, rfl⟩ rfl rfl rfl

theorem rep64_1000 : Rep64 (1000 : ℚ) := rep64_ofNat 1000 (by norm_num)

example (indef : Int) : toInt indef ((measureRpm indef)^[160] exSpinning).fan.getRpmAvg ≤ 0 := by
  obtain ⟨q', -, -, -, h⟩ := C10_hwmon_notices_within indef exSpinning 10 (by norm_num) (by norm_num)
    rfl rfl rfl rfl rfl 1000 rfl
    rep64_1000 (by norm_num) (by norm_num)
  exact h

/-- while the fan reads 0 RPM the average never increases and never becomes negative (one poll) -/
theorem C10_hwmon_avg_nonincreasing (indef : Int) (w : World) (n : Int) (hn : 1 ≤ n) (hn' : n ≤ 2 ^ 20)
    (hk : w.fan.kind = .hwmon) (hhas : w.dev.hasRpm = true) (hread : w.dev.rpmRead = .ok)
    (hrpm : w.dev.rpm = 0) (hw : w.rpmWindow = n)
    (q : ℚ) (havg : w.fan.getRpmAvg = F64.fin q) (hrep : Rep64 q) (h0 : 0 ≤ q) (hq : q ≤ 2 ^ 15) :
    ∃ q', (measureRpm indef w).fan.getRpmAvg = F64.fin q' ∧ Rep64 q' ∧ 0 ≤ q' ∧ q' ≤ q := by
  rw [measureRpm_hwmon_zero indef w hk hhas hread hrpm, hw, havg]
  obtain ⟨e, l, u⟩ := upd_zero hn hn' hrep h0 hq
  exact ⟨_, e, rep64_fl64 _, l, u⟩

example (indef : Int) : ∃ q', (measureRpm indef exSpinning).fan.getRpmAvg = F64.fin q' ∧ Rep64 q' ∧
    0 ≤ q' ∧ q' ≤ 1000 :=
  C10_hwmon_avg_nonincreasing indef exSpinning 10 (by norm_num) (by norm_num) rfl rfl rfl rfl rfl 1000 rfl
    rep64_1000 (by norm_num) (by norm_num)

/-- After a raise reset the average to 1, ONE poll reading 0 brings a hwmon fan's average below 1
    again (file/cmd fans: `C10_filecmd_poll_zero` – their average after a poll does not depend on the
    value before). So the raises continue at every poll+cycle while the fan reports 0 RPM. -/
theorem C10_reset_then_notices (indef : Int) (w : World) (n : Int) (hn : 1 ≤ n) (hn' : n ≤ 2 ^ 20)
    (hk : w.fan.kind = .hwmon) (hhas : w.dev.hasRpm = true) (hread : w.dev.rpmRead = .ok)
    (hrpm : w.dev.rpm = 0) (hw : w.rpmWindow = n) (havg : w.fan.getRpmAvg = F64.fin 1) :
    ∃ q', (measureRpm indef w).fan.getRpmAvg = F64.fin q' ∧ 0 ≤ q' ∧ q' < 1 ∧
      toInt indef (measureRpm indef w).fan.getRpmAvg ≤ 0 := by
  rw [measureRpm_hwmon_zero indef w hk hhas hread hrpm, hw, havg]
  obtain ⟨h, h0, -⟩ := upd_zero hn hn' fl64_one zero_le_one (by norm_num)
  have h1 := stepQ_one_zero_lt_one hn hn'
  exact ⟨_, h, h0, h1, by rw [h, toInt_fin_lt_one indef h0 h1]⟩

example (indef : Int) :
    ∃ q', (measureRpm indef { exStalled with fan := { exStalled.fan with rpmAvg := F64.fin 1 } }).fan.getRpmAvg
      = F64.fin q' ∧ 0 ≤ q' ∧ q' < 1 ∧
      toInt indef (measureRpm indef { exStalled with fan := { exStalled.fan with rpmAvg := F64.fin 1 } }).fan.getRpmAvg ≤ 0 :=
  C10_reset_then_notices indef _ 10 (by norm_num) (by norm_num) rfl rfl rfl rfl rfl rfl

/-- hwmon: a neverStop fan that stops while the request stays at `l < max` is pushed to `l + 1` by the
    first cycle after at most `16 · rpmRollingWindowSize` polls reading 0 RPM. -/
theorem C10_hwmon_noticed_and_pushed (indef : Int) (w : World) (n cv now l : Int) (hinv : Inv w)
    (hn : 1 ≤ n) (hn' : n ≤ 2 ^ 20)
    (hk : w.fan.kind = .hwmon) (hhas : w.dev.hasRpm = true) (hread : w.dev.rpmRead = .ok)
    (hrpm : w.dev.rpm = 0) (hw : w.rpmWindow = n) (hns : w.fan.neverStop = true)
    (q : ℚ) (havg : w.fan.getRpmAvg = F64.fin q) (hrep : Rep64 q) (h0 : 0 ≤ q) (hq : q ≤ 2 ^ 15)
    (hl : w.ctl.lastSet = some l) (hT : computedTarget indef w cv l now = l) (hlt : l < w.fan.getMax) :
    ∃ w' obs, calculateTargetPwm indef ((measureRpm indef)^[16 * n.toNat] w) (.ok cv) now
        = (w', .ok (l + 1), obs) ∧ Obs.raised w.floor (w.floor + 1) ∈ obs := by
  obtain ⟨q', -, -, -, hz⟩ := C10_hwmon_notices_within indef w n hn hn' hk hhas hread hrpm hw q havg hrep h0 hq
  exact calc_stall_raises_polled hinv indef cv now l _ hl hT ((supports_rpmSensor _ _).trans hhas) hns hz hlt

example (indef : Int) : ∃ w' obs, calculateTargetPwm indef ((measureRpm indef)^[160] exSpinning) (.ok 0) 0
    = (w', .ok 31, obs) ∧ Obs.raised 30 31 ∈ obs :=
  C10_hwmon_noticed_and_pushed indef exSpinning 10 0 0 30 exSpinning_inv (by norm_num) (by norm_num)
    rfl rfl rfl rfl rfl rfl 1000 rfl
    rep64_1000 (by norm_num) (by norm_num)
    rfl (exStalled_target indef) (by decide)

/-- file/cmd: the same after ONE poll. -/
theorem C10_filecmd_noticed_and_pushed (indef : Int) (w : World) (cv now l : Int) (hinv : Inv w)
    (hk : w.fan.kind ≠ .hwmon) (hhas : w.dev.hasRpm = true) (hread : w.dev.rpmRead = .ok)
    (hrpm : w.dev.rpm = 0) (hn : 1 ≤ w.rpmWindow) (hns : w.fan.neverStop = true)
    (hl : w.ctl.lastSet = some l) (hT : computedTarget indef w cv l now = l) (hlt : l < w.fan.getMax) :
    ∃ w' obs, calculateTargetPwm indef (measureRpm indef w) (.ok cv) now = (w', .ok (l + 1), obs) ∧
      Obs.raised w.floor (w.floor + 1) ∈ obs :=
  calc_stall_raises_polled hinv indef cv now l 1 hl hT ((supports_rpmSensor _ _).trans hhas) hns
    (C10_filecmd_poll_zero indef w hk hhas hread hrpm hn) hlt

/-- Every announced raise increments `minPwmOffset` and `Inv` keeps `min + offset ≤ max`: in ANY run
    (any events, any length) at most `max − floor₀` raises happen. After the last possible one the
    floor equals the maximum and `C10_stalled_when_floor_at_max` applies. -/
theorem C10_raises_bounded (indef : Int) (w0 : World) (es : List Ev) (hinv : Inv w0) :
    (raisesIn (runEvs indef w0 es) : Int) ≤ w0.fan.getMax - w0.floor ∧
    (runFinal indef w0 es).ctl.offset = w0.ctl.offset + (raisesIn (runEvs indef w0 es) : Int) :=
  ⟨run_raises_bounded indef w0 es hinv, run_offset indef w0 es⟩

example : (raisesIn (runEvs 0 exStalled [.cycle (.ok 0) 0, .poll, .cycle (.ok 0) 1]) : Int) ≤ 200 - 30 :=
  (C10_raises_bounded 0 exStalled _ exStalled_inv).1

end Fan2go

#print axioms Fan2go.C10_stall_raises
#print axioms Fan2go.C10_stall_raises_direct
#print axioms Fan2go.C10_stalled_at_max
#print axioms Fan2go.C10_stalled_when_floor_at_max
#print axioms Fan2go.C10_filecmd_poll_zero
#print axioms Fan2go.C10_hwmon_notices_within
#print axioms Fan2go.C10_hwmon_avg_nonincreasing
#print axioms Fan2go.C10_reset_then_notices
#print axioms Fan2go.C10_hwmon_noticed_and_pushed
#print axioms Fan2go.C10_filecmd_noticed_and_pushed
#print axioms Fan2go.C10_raises_bounded
