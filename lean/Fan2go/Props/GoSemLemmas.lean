/-
  Facts about the Go semantics of Model/GoSem.lean that the ties share: `Res` as a monad, the loop forms the translator
  prints, maps, slices, strings, literals. Nothing here mentions a generated definition.
-/
import Fan2go.Proofs.Util
namespace Fan2go

namespace Res
variable {α β : Type}
theorem ok_bind (a : α) (f : α → Res β) : (Res.ok a >>= f) = f a := rfl
theorem err_bind (e : String) (f : α → Res β) : (Res.err e >>= f) = .err e := rfl
theorem panic_bind (p : String) (f : α → Res β) : (Res.panic p >>= f) = .panic p := rfl
theorem pure_def (a : α) : (pure a : Res α) = .ok a := rfl

/-- Go's `c && p(r)`, where `r` is read only when `c` holds, as the translator prints it -/
theorem guarded (c : Prop) [Decidable c] (r : Res α) (v : α) (p : α → Bool) (h : c → r = .ok v) :
    (if c then r >>= fun x => pure (p x) else pure false) = .ok (decide c && p v) := by
  by_cases hc : c
  · simp only [hc, ↓reduceIte, h hc, ok_bind, pure_def, decide_true, Bool.true_and]
  · simp only [hc, ↓reduceIte, pure_def, decide_false, Bool.false_and]
end Res

-- the laws make core's lemmas about `forIn` over a list available (`List.forIn_map`, `List.forIn_pure_yield_eq_foldl`);
-- the instance's name, `EvaluateProof.instLawfulMonadRes`, carries the namespace of Props/Trans2Evaluate.lean
namespace EvaluateProof
instance : LawfulMonad Res := LawfulMonad.mk'
  (id_map := by intro α x; cases x <;> rfl)
  (pure_bind := by intros; rfl)
  (bind_assoc := by intro α β γ x f g; cases x <;> rfl)
end EvaluateProof

theorem FC.bind_ok {α β} (a : α) (f : α → Res β) : (Res.ok a >>= f) = f a := rfl
theorem FC.bind_panic {α β} (p : String) (f : α → Res β) : (Res.panic p >>= f) = Res.panic p := rfl
theorem FC.pure_eq {α} (a : α) : (pure a : Res α) = .ok a := rfl
theorem InterpProof.bind_ok {α β} (a : α) (f : α → Res β) : (Res.ok a >>= f) = f a := rfl
theorem InterpProof.bind_panic {α β} (p : String) (f : α → Res β) : (Res.panic p >>= f) = .panic p := rfl
theorem InterpProof.pure_eq {α} (a : α) : (pure a : Res α) = .ok a := rfl
theorem EvaluateProof.bind_ok {α β} (a : α) (f : α → Res β) : (Res.ok a >>= f) = f a := rfl
theorem EvaluateProof.bind_err {α β} (e : String) (f : α → Res β) : (Res.err e >>= f) = .err e := rfl
theorem EvaluateProof.bind_panic {α β} (e : String) (f : α → Res β) : (Res.panic e >>= f) = .panic e := rfl
theorem EvaluateProof.pure_eq {α} (a : α) : (pure a : Res α) = .ok a := rfl
theorem Res.bind_ok' {α β} (a : α) (f : α → Res β) : (Res.ok a >>= f) = f a := rfl
theorem Res.pure_bind' {α β} (a : α) (f : α → Res β) : ((pure a : Res α) >>= f) = f a := rfl

namespace Go

theorem ofInt_zero : F64.ofInt 0 = F64.zero := by decide +kernel
theorem ofInt_one : F64.ofInt 1 = F64.one := by decide +kernel

/-- the rule for a translated `for cond { }` whose model is a recursive function `g` of the loop state: a step that goes
    on leaves `g` unchanged, a step that ends the loop delivers it (`R v r`: the final state `r` delivers `v`), and the
    declared fuel exceeds the measure `μ`. The loop, its body and the rest `k` of the method are read off the goal. -/
theorem loopFuel_rule {σ α β : Type} {f : Unit → σ → Res (ForInStep σ)} (I : σ → Prop) (μ : σ → Nat) (g : σ → α)
    (R : α → σ → Prop) {k : σ → Res β} {out : Res β}
    (step : ∀ s, I s → match f () s with
      | .ok (.done r) => R (g s) r
      | .ok (.yield s') => I s' ∧ μ s' < μ s ∧ g s = g s'
      | _ => False) :
    ∀ {n s}, I s → μ s < n → (∀ r, R (g s) r → k r = out) → loopFuel f n s >>= k = out := by
  intro n
  induction n with
  | zero => intro s _ h; omega
  | succ n ih =>
    intro s hI hμ post
    have hs := step s hI
    unfold loopFuel
    split at hs
    · next r hf => rw [hf]; exact post r hs
    · next s' hf => rw [hf]; exact ih hs.1 (by omega) (hs.2.2 ▸ post)
    · exact hs.elim

theorem forIn_fold {α σ : Type} (g : σ → α → σ) (l : List α) (s : σ) :
    forIn (m := Res) l s (fun a s => pure (ForInStep.yield (g s a))) = .ok (l.foldl g s) :=
  List.forIn_pure_yield_eq_foldl (m := Res) (fun a s => g s a) s

theorem mapGet_getElem {α : Type} [Go.Zero α] (m : List (Int × α)) (hm : SortedMap m) (i : Nat) (h : i < m.length) :
    mapGet m m[i].1 = m[i].2 :=
  mapGet_of_mem hm (List.getElem_mem h)

/-- without `SortedMap` this fails: with a repeated key `m[k]` reads the FIRST entry, the loop over the pairs reads each -/
theorem forIn_keys {α σ : Type} [Go.Zero α] (g : Int → α → σ → Res (ForInStep σ)) (m : List (Int × α)) (init : σ)
    (h : SortedMap m) :
    forIn (m.map (fun x => x.1)) init (fun k s => g k (Go.mapGet m k) s) = forIn m init (fun p s => g p.1 p.2 s) := by
  rw [List.forIn_map]
  -- `forIn'` hands the body the membership of the entry it is run on
  refine (forIn'_eq_forIn m init (fun p _ s => g p.1 (mapGet m p.1) s) _ fun _ _ _ => rfl).symm.trans ?_
  refine Eq.trans ?_ (forIn'_eq_forIn m init (fun p _ s => g p.1 p.2 s) _ fun _ _ _ => rfl)
  exact List.forIn'_congr rfl rfl fun p hp s => by rw [mapGet_of_mem h hp]

/-- `f` is left to unification, so that a tie states what a pass does (`hf`) and not how the translator prints it -/
theorem forIn_keys_fold {α σ : Type} [Go.Zero α] (f : Int → σ → Res (ForInStep σ)) (step : σ → Int × α → σ)
    (m : List (Int × α)) (hf : ∀ k s, f k s = .ok (.yield (step s (k, Go.mapGet m k)))) (h : SortedMap m) (init : σ) :
    forIn (m.map (fun x => x.1)) init f = .ok (m.foldl step init) := by
  rw [funext fun k => funext (hf k)]
  exact (forIn_keys (fun k v s => .ok (.yield (step s (k, v)))) m init h).trans (forIn_fold step m init)

theorem mapPut_lt (acc : List (Int × Int)) (k v : Int) (h : ∀ p ∈ acc.head?, k < p.1) :
    Go.mapPut acc k v = (k, v) :: acc := by
  cases acc with
  | nil => rfl
  | cons p rest =>
    obtain ⟨k', v'⟩ := p
    have : k < k' := h (k', v') (by simp)
    simp [Go.mapPut, this]

theorem idx_nat (a : Array Int) (i : Nat) (h : i < a.size) : idx a (i : Int) = .ok a[i]! := by
  simp [idx, h]

theorem idx_pred (a : Array Int) (n : Nat) (h0 : 0 < n) (h : n ≤ a.size) : idx a ((n : Int) - 1) = .ok a[n - 1]! := by
  rw [show (n : Int) - 1 = ((n - 1 : Nat) : Int) by omega]; exact idx_nat a _ (by omega)

theorem idx_succ (a : Array Int) (n : Nat) (h : n + 1 < a.size) : idx a ((n : Int) + 1) = .ok a[n + 1]! :=
  idx_nat a (n + 1) h

theorem idx_sortedKeys {α : Type} (m : List (Int × α)) (i : Nat) (h : i < m.length) :
    idx (sortedKeys m) (i : Int) = .ok m[i].1 := by
  rw [idx_nat _ i (by simpa [sortedKeys] using h)]
  simp [sortedKeys, h]

theorem div2 (i j : Nat) : Go.div ((i:Int) + j) 2 = .ok (((i + j) / 2 : Nat) : Int) := by
  unfold Go.div
  simp only [show ¬ ((2:Int) = 0) by decide, ↓reduceIte]
  rw [Int.tdiv_eq_ediv_of_nonneg (by omega)]; congr 1

-- `((0 : Nat) : Int)` and `((n + 1 : Nat) : Int)` are what an induction on `n : Nat` meets (`T3I.sweep_loop`)
theorem downFrom_zero : Go.downFrom ((0 : Nat) : Int) 0 = [0] := by
  simp [Go.downFrom]

theorem downFrom_succ (n : Nat) : Go.downFrom ((n + 1 : Nat) : Int) 0 = ((n + 1 : Nat) : Int) :: Go.downFrom (n : Int) 0 := by
  unfold Go.downFrom
  have h1 : (((n + 1 : Nat) : Int) - 0 + 1).toNat = (n + 1) + 1 := by omega
  have h2 : ((n : Int) - 0 + 1).toNat = n + 1 := by omega
  rw [h1, h2, List.range_succ_eq_map]
  simp only [List.map_cons, List.map_map]
  rw [List.cons.injEq]
  refine ⟨by omega, ?_⟩
  apply List.map_congr_left
  intro j _
  simp only [Function.comp]
  omega

theorem land_nat (a b : Nat) : Go.land (a : Int) (b : Int) = ((a &&& b : Nat) : Int) := by
  simp [Go.land]

theorem lenS_empty : Go.lenS "" = 0 := by decide

end Go
end Fan2go
