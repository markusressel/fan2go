/-
  C18 "Only root-controlled executables are ever run".

  Models: `checkPerm` (= util.CheckFilePermissionsForExecution), `safeCmd` / `safeCmdExecution`
  (= util.SafeCmdExecution), `validateConfigPerm` (= the rule in configuration.validateConfig);
  tied to the real code by stream `ex` (go/harness/exec.go vs Driver/ExecStream.lean), whose
  exhaustive form runs all {root,other} x {root,other} x 512 modes x {direct,symlink} = 4096 files.

  Verdict of the proofs: the property HOLDS for the model (every theorem below is unconditional).
  What is NOT covered, because neither the property nor the code looks at it: the window between the
  check and `execve` (the check stats the file the path resolves to; `exec.CommandContext` is given the
  path itself: the configured one or, for a bare command name, what `exec.LookPath` finds, which since
  /repo commit 545e5c8 is also the path that is checked), and the ownership of the directories on the path.
-/
import Fan2go.Proofs.Exec
namespace Fan2go

/-- **C18, the predicate.** For ALL naturals uid / gid / mode the check passes iff the file is owned by
    root, is not writable by a non-root group and is not writable by others.
    (Both sides speak about the same bit tests `mode &&& 0o020`, `mode &&& 0o002`, so no finite
    enumeration is needed.) -/
theorem C18_predicate (s : Stat) : checkPerm .resolved (.ok s) = .ok (.ok ()) ↔ allowed s := by
  simp [checkPerm_eq_ok_iff]

/-- the same with the `Bool` view used by the driver -/
theorem C18_passed_iff (s : Stat) : (checkPerm .resolved (.ok s)).passed = true ↔ allowed s :=
  (PermOut.passed_iff _).trans (C18_predicate s)

/-- `allowed` in terms of single permission bits: bit 4 = group-write (0o020), bit 1 = other-write (0o002). -/
theorem C18_bits (s : Stat) :
    allowed s ↔ s.uid = 0 ∧ (s.gid = 0 ∨ s.mode.testBit 4 = false) ∧ s.mode.testBit 1 = false :=
  allowed_iff_bits s

/-- Lifting of the finite matrix to all naturals: the verdict depends only on `uid = 0`, `gid = 0` and
    `mode % 512`, so every `Stat` is judged like one of the 2 x 2 x 512 representatives that the
    exhaustive stream (`gen_perm(exhaustive=True)`) runs on the real code. -/
theorem C18_finite_cover (s : Stat) :
    allowed s ↔ allowed { uid := if s.uid = 0 then 0 else 1234,
                          gid := if s.gid = 0 then 0 else 4321,
                          mode := s.mode % 512 } := by
  apply allowed_congr
  · split <;> simp [*]
  · split <;> simp [*]
  · exact (Nat.testBit_mod_two_pow s.mode 9 4).symm
  · exact (Nat.testBit_mod_two_pow s.mode 9 1).symm

/-- ... and on those 2 x 2 x 512 representatives the model's verdict is `allowed`, by plain evaluation
    (a `decide` over the finite matrix, independent of `C18_predicate`). -/
theorem C18_matrix :
    ∀ u ∈ [0, 1234], ∀ g ∈ [0, 4321], ∀ m, m < 512 →
      (checkPerm .resolved (.ok ⟨u, g, m⟩)).passed = decide (allowed ⟨u, g, m⟩) := by
  decide +kernel

/-- **C18, the guard (on the permission outcome).** `cmd.Output()` is reached – let alone a process
    started – only if the check evaluated AT THIS CALL passed. -/
theorem C18_guard (perm : PermOut) (beh : Beh) (t : Nat) :
    ((safeCmd perm beh t).attempted = true ∨ (safeCmd perm beh t).ran = true) → perm = .ok (.ok ()) :=
  safeCmd_guard

/-- **C18, the guard (on the file).** Something is executed only if the resolved file is `allowed`;
    otherwise the call fails and nothing is attempted. -/
theorem C18_guard_file (ev : EvalRes) (st : StatRes) (beh : Beh) (t : Nat)
    (h : (safeCmdExecution ev st beh t).ran = true) :
    ev = .resolved ∧ ∃ s, st = .ok s ∧ allowed s :=
  checkPerm_eq_ok_iff.mp (C18_guard _ beh t (Or.inr h))

/-- "otherwise the call fails with an error and nothing is executed": a file that is not `allowed`
    gives an error value (no panic), no start attempt, whatever the command would have done. -/
theorem C18_refused (s : Stat) (beh : Beh) (t : Nat) (h : ¬ allowed s) :
    (∃ e, (safeCmdExecution .resolved (.ok s) beh t).res = .ok (.error e)) ∧
    (safeCmdExecution .resolved (.ok s) beh t).attempted = false ∧
    (safeCmdExecution .resolved (.ok s) beh t).ran = false := by
  rcases checkPerm_stat_cases s with ⟨ha, _⟩ | ⟨_, e, he⟩
  · exact absurd ha h
  · simp [safeCmdExecution, he, safeCmd]

/-- the same for a path that does not resolve or whose target is missing -/
theorem C18_refused_missing (st : StatRes) (beh : Beh) (t : Nat) :
    (safeCmdExecution .err st beh t).ran = false ∧
    (safeCmdExecution .resolved .notExist beh t).ran = false :=
  ⟨rfl, rfl⟩

/-- **C18, every call.** In any sequence of executions with arbitrary changes of the file in between
    (chown, chmod, removal, re-pointing the link), each call is judged by the file state AT THAT CALL:
    whenever a logged call ran something, the state logged with it was an `allowed` resolved file.
    (`SafeCmdExecution` has no memory; `runTrace` threads nothing but the file state.) -/
theorem C18_every_call (w : EvalRes × StatRes) (tr : List ExecEvent) :
    ∀ p ∈ runTrace w tr, p.2.ran = true → p.1.1 = .resolved ∧ ∃ s, p.1.2 = .ok s ∧ allowed s := by
  induction tr generalizing w with
  | nil => intro p hp; cases hp
  | cons e rest ih =>
    cases e with
    | setStat ev st => rw [runTrace_setStat]; exact ih (ev, st)
    | call b t =>
      intro p hp hr
      rw [runTrace_call, List.mem_cons] at hp
      rcases hp with rfl | hp
      · exact C18_guard_file _ _ b t hr
      · exact ih w p hp hr

/-- **C18, symlinks.** The only stat record `checkPerm` receives is that of the path returned by
    `filepath.EvalSymlinks` (Go: `file, err := filepath.EvalSymlinks(file); info, err := os.Stat(file)`);
    the link's own owner/mode is not an input of the model at all, so by `C18_predicate` the verdict is
    a function of the RESOLVED file. What remains to state: an unresolvable path is always refused. -/
theorem C18_symlink (st : StatRes) (beh : Beh) (t : Nat) :
    (checkPerm .err st).passed = false ∧ (safeCmdExecution .err st beh t).attempted = false :=
  ⟨rfl, rfl⟩

/-- **C18, the configuration-file rule.** If the configuration declares a command sensor or a command
    fan, validation accepts only a configuration FILE that is itself `allowed`. -/
theorem C18_config_rule (early fansErr : Option String) (c : CfgView) (ev : EvalRes) (st : StatRes)
    (hc : needsPermCheck c = true)
    (hv : validateConfigPerm early fansErr c ev st = .ok (.ok ())) :
    ev = .resolved ∧ ∃ s, st = .ok s ∧ allowed s := by
  rcases checkPerm_cases ev st with hp | ⟨e, hp⟩
  · exact hp.2
  · cases early <;> simp [validateConfigPerm, hc, hp] at hv

/-- without command entries the file's permissions are not looked at -/
theorem C18_config_rule_only_cmd (early fansErr : Option String) (c : CfgView)
    (hc : needsPermCheck c = false) (ev ev' : EvalRes) (st st' : StatRes) :
    validateConfigPerm early fansErr c ev st = validateConfigPerm early fansErr c ev' st' := by
  unfold validateConfigPerm
  simp [hc]

theorem needsPermCheck_iff (c : CfgView) :
    needsPermCheck c = true ↔ c.hasCmdSensor = true ∨ c.hasCmdFan = true := by
  simp [needsPermCheck]

/-- an allowed file exists and is run -/
example : allowed ⟨0, 0, 0o755⟩ ∧
    safeCmdExecution .resolved (.ok ⟨0, 0, 0o755⟩) (.exits 0 "7\n") 2000 =
      { res := .ok (.ok "7"), attempted := true, ran := true, boundedBy := some 2000 } := by decide

/-- root-owned, foreign group WITHOUT group write: allowed; WITH group write: refused -/
example : allowed ⟨0, 4321, 0o755⟩ ∧ ¬ allowed ⟨0, 4321, 0o775⟩ ∧ allowed ⟨0, 0, 0o775⟩ := by decide

example : ¬ allowed ⟨1234, 0, 0o755⟩ ∧ ¬ allowed ⟨0, 0, 0o757⟩ := by decide

/-- high bits (setuid, file type as in `st_mode`) do not disturb the test -/
example : allowed ⟨0, 0, 0o104755⟩ := by decide

/-- the check is repeated per call: allowed, then chown'ed away, then back -/
example :
    (runTrace (.resolved, .ok ⟨0, 0, 0o755⟩)
      [.call (.exits 0 "7\n") 2000, .setStat .resolved (.ok ⟨1234, 0, 0o755⟩), .call (.exits 0 "7\n") 2000,
       .setStat .resolved (.ok ⟨0, 0, 0o755⟩), .call (.exits 0 "7\n") 2000]).map (·.2.ran)
      = [true, false, true] := by decide

/-- the config rule has both outcomes -/
example : validateConfigPerm none none ⟨true, false⟩ .resolved (.ok ⟨0, 0, 0o644⟩) = .ok (.ok ()) ∧
    validateConfigPerm none none ⟨false, true⟩ .resolved (.ok ⟨1234, 0, 0o644⟩) ≠ .ok (.ok ()) ∧
    validateConfigPerm none none ⟨false, false⟩ .resolved (.ok ⟨1234, 0, 0o666⟩) = .ok (.ok ()) := by decide

/-- a stat error other than not-exist is an error of the check (before /repo commit fc39d65: a nil `FileInfo`
    dereferenced, a panic): nothing is run -/
example : checkPerm .resolved .otherErr = .ok (.error "stat") := rfl

#print axioms C18_predicate
#print axioms C18_bits
#print axioms C18_finite_cover
#print axioms C18_matrix
#print axioms C18_guard
#print axioms C18_guard_file
#print axioms C18_refused
#print axioms C18_every_call
#print axioms C18_symlink
#print axioms C18_config_rule
#print axioms C18_config_rule_only_cmd

end Fan2go
