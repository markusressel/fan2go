/-
  C07 — "Hotter never means slower".

  Statements about the MODEL (`Model/Curves.lean`, `Model/Util.lean`, `Model/ControlLoop.lean`,
  `Model/Controller.lean`).
  Every theorem holds for ALL values `indef` of the implementation-defined `int(NaN)`.

  Outcome:
  * min/max form: PROVED monotone for every pair of non-NaN averages and ANY 64-bit `min`, `max`.
  * steps form: PROVED monotone when every configured speed is a binary32 value (all integers and
    all multiples of 2^-15 in 0..255 are); REFUTED in full generality (`C07_steps_refuted`): the
    `float64(float32(·))` cast inside a segment can lift a value above the next knot, which is
    returned uncast — finding, see `C07_steps_witness`.
  * `sum`, `maximum`, `minimum`, `average` preserve monotonicity; `difference` and `delta` do not.
  * requested PWM (direct loop without change limit, `rescale`) is monotone in the curve value.
-/
import Fan2go.Proofs.ControlLoops
import Fan2go.Props.C06

namespace Fan2go
open F64

/-- finite averages `a ≤ b`; any 64-bit `min`, `max` (also `min ≥ max`). -/
theorem C07_linear_mono (indef : Int) {a b : ℚ} (hab : a ≤ b) {mn mx : Int}
    (hmn : |mn| ≤ 2 ^ 63) (hmx : |mx| ≤ 2 ^ 63) :
    linMinMax indef (fin a) mn mx ≤ linMinMax indef (fin b) mn mx :=
  linMinMax_mono indef hab hmn hmx

/-- the same for all non-NaN averages (Go `<=`), `±Inf` included. -/
theorem C07_linear_mono_ext (indef : Int) {x y : F64} (h : le x y = true) {mn mx : Int}
    (hmn : |mn| ≤ 2 ^ 63) (hmx : |mx| ≤ 2 ^ 63) :
    linMinMax indef x mn mx ≤ linMinMax indef y mn mx :=
  linMinMax_mono_ext indef h hmn hmx

example : linMinMax (-2 ^ 63) (fin 45000) 40 60 ≤ linMinMax (-2 ^ 63) (fin 45001) 40 60 :=
  C07_linear_mono _ (by norm_num) (by norm_num) (by norm_num)
example : linMinMax (-2 ^ 63) (fin 45000) 40 60 = 63 ∧ linMinMax (-2 ^ 63) (fin 47000) 40 60 = 89 := by
  constructor <;> decide +kernel

/-- Non-empty steps, keys strictly increasing (`|key| ≤ 2^50`), speeds finite binary64 values in
    `[0,255]`, non-decreasing along the keys, each representable in binary32. Then the curve value
    is non-decreasing in the average, over all non-NaN averages. -/
theorem C07_steps_mono (indef : Int) {ks : List (Int × ℚ)} (hne : ks ≠ [])
    (hb : ∀ p ∈ ks, |p.1| ≤ 2 ^ 50 ∧ Rep64 p.2 ∧ 0 ≤ p.2 ∧ p.2 ≤ 255)
    (hkeys : ks.Pairwise (fun a b => a.1 < b.1))
    (hmono : ks.Pairwise (fun a b => a.2 ≤ b.2))
    (hrep32 : ∀ p ∈ ks, Rep32 p.2)
    {a b : F64} (hab : le a b = true) :
    ∃ v w, linSteps indef a (toSteps ks) = .ok v ∧ linSteps indef b (toSteps ks) = .ok w ∧ v ≤ w :=
  linSteps_mono indef (StepsOK.of_flat hb hkeys) ⟨hmono, hrep32⟩ hne hab

/-- the underlying statement about `util.CalculateInterpolatedCurveValue` itself. -/
theorem C07_interp_mono {x : Int} {y : ℚ} {rest : List (Int × ℚ)}
    (hb : ∀ p ∈ (x, y) :: rest, |p.1| ≤ 2 ^ 50 ∧ Rep64 p.2 ∧ 0 ≤ p.2 ∧ p.2 ≤ 255)
    (hkeys : ((x, y) :: rest).Pairwise (fun a b => a.1 < b.1))
    (hmono : ((x, y) :: rest).Pairwise (fun a b => a.2 ≤ b.2))
    (hrep32 : ∀ p ∈ (x, y) :: rest, Rep32 p.2)
    {t t' : F64} (h : le t t' = true) :
    ∃ z z', interp (toSteps ((x, y) :: rest)) t = .ok (fin z) ∧
      interp (toSteps ((x, y) :: rest)) t' = .ok (fin z') ∧ z ≤ z' := by
  have hok := StepsOK.of_flat hb hkeys
  exact ⟨_, _, congrArg Res.ok (interpLoop_eq hok (ne_nan_of_le_left h)),
    congrArg Res.ok (interpLoop_eq hok (ne_nan_of_le_right h)),
    curveF_mono hok ⟨hmono, hrep32⟩ h⟩

def exSteps7 : List (Int × ℚ) := [(40, 0), (50, 100), (60, 255)]

theorem exSteps7_ok : (∀ p ∈ exSteps7, |p.1| ≤ 2 ^ 50 ∧ Rep64 p.2 ∧ 0 ≤ p.2 ∧ p.2 ≤ 255) ∧
    exSteps7.Pairwise (fun a b => a.1 < b.1) ∧ exSteps7.Pairwise (fun a b => a.2 ≤ b.2) ∧
    (∀ p ∈ exSteps7, Rep32 p.2) := by
  -- `exSteps7` is the list `exSteps` of C06
  refine ⟨exSteps_ok.1, exSteps_ok.2, by simp [exSteps7]; norm_num, ?_⟩
  simp only [exSteps7, List.forall_mem_cons, List.not_mem_nil, false_imp_iff, implies_true, and_true]
  exact ⟨by exact_mod_cast byte_rep32 (n := 0) le_rfl (by norm_num),
    by exact_mod_cast byte_rep32 (n := 100) (by norm_num) (by norm_num),
    by exact_mod_cast byte_rep32 (n := 255) (by norm_num) le_rfl⟩

example : ∃ v w, linSteps (-2 ^ 63) (fin 49999) (toSteps exSteps7) = .ok v ∧
    linSteps (-2 ^ 63) (fin 50000) (toSteps exSteps7) = .ok w ∧ v ≤ w :=
  C07_steps_mono _ (by simp [exSteps7]) exSteps7_ok.1 exSteps7_ok.2.1 exSteps7_ok.2.2.1
    exSteps7_ok.2.2.2 (by rw [le_fin_fin]; norm_num)

/-- The full-strength claim: as `C07_steps_mono` but WITHOUT the binary32 hypothesis, for finite
    binary64 averages. -/
def C07_steps_mono_statement : Prop :=
  ∀ (indef : Int) (ks : List (Int × ℚ)), ks ≠ [] →
    (∀ p ∈ ks, |p.1| ≤ 2 ^ 50 ∧ Rep64 p.2 ∧ 0 ≤ p.2 ∧ p.2 ≤ 255) →
    ks.Pairwise (fun a b => a.1 < b.1) →
    ks.Pairwise (fun a b => a.2 ≤ b.2) →
    ∀ a b : ℚ, Rep64 a → Rep64 b → a ≤ b →
      ∃ v w, linSteps indef (fin a) (toSteps ks) = .ok v ∧
        linSteps indef (fin b) (toSteps ks) = .ok w ∧ v ≤ w

/-- witness steps: 59 °C ↦ 127.4970703125, 60 °C ↦ 127.49999999999998579 (the double just below
    127.5, bits `0x405FDFFFFFFFFFFF`). -/
def witnessSteps : List (Int × ℚ) := [(59, 130557 / 1024), (60, 8972014882193407 / 70368744177664)]

/-- **Finding**: at 59.999 °C the interpolated value is lifted by the float32 cast to exactly 127.5
    and rounds to 128; at 60.000 °C the knot value 127.4999… is returned uncast and rounds to 127.
    One milli-degree hotter, one PWM step slower. -/
theorem C07_steps_witness (indef : Int) :
    linSteps indef (fin 59999) (toSteps witnessSteps) = .ok 128 ∧
    linSteps indef (fin 60000) (toSteps witnessSteps) = .ok 127 := by
  have h1 : interpLoop true (toSteps witnessSteps) (fin 59999 / ofInt 1000) = fin (255 / 2) := by
    decide +kernel
  have h2 : interpLoop true (toSteps witnessSteps) (fin 60000 / ofInt 1000)
      = fin (8972014882193407 / 70368744177664) := by decide +kernel
  have r1 : roundRat (255 / 2) = 128 := by decide +kernel
  have r2 : roundRat (8972014882193407 / 70368744177664) = 127 := by decide +kernel
  exact ⟨r1 ▸ (linSteps_of_value indef h1 (by norm_num) (by norm_num)).1,
    r2 ▸ (linSteps_of_value indef h2 (by norm_num) (by norm_num)).1⟩

theorem witnessSteps_ok :
    (∀ p ∈ witnessSteps, |p.1| ≤ 2 ^ 50 ∧ Rep64 p.2 ∧ 0 ≤ p.2 ∧ p.2 ≤ 255) ∧
    witnessSteps.Pairwise (fun a b => a.1 < b.1) ∧
    witnessSteps.Pairwise (fun a b => a.2 ≤ b.2) := by
  have r0 : Rep64 (130557 / 1024 : ℚ) := by
    exact (rep_iff (prec := 53) (emin := -1022) (by norm_num)).mpr
      ⟨130557, -10, by norm_num, by norm_num, by rw [pow2_def]; norm_num⟩
  have r1 : Rep64 (8972014882193407 / 70368744177664 : ℚ) := by
    exact (rep_iff (prec := 53) (emin := -1022) (by norm_num)).mpr
      ⟨8972014882193407, -46, by norm_num, by norm_num, by rw [pow2_def]; norm_num⟩
  refine ⟨?_, by simp [witnessSteps], by simp [witnessSteps]; norm_num⟩
  intro p hp
  simp only [witnessSteps, List.mem_cons, List.mem_nil_iff, or_false] at hp
  rcases hp with rfl | rfl <;> simp only <;> refine ⟨by norm_num, ?_, by norm_num, by norm_num⟩
  · exact r0
  · exact r1

/-- **Without the binary32 hypothesis monotonicity of the steps form is false.** -/
theorem C07_steps_refuted : ¬ C07_steps_mono_statement := by
  intro h
  obtain ⟨v, w, hv, hw, hvw⟩ := h 0 witnessSteps (by simp [witnessSteps]) witnessSteps_ok.1
    witnessSteps_ok.2.1 witnessSteps_ok.2.2 59999 60000 (rep64_ofNat 59999 (by norm_num))
    (rep64_ofNat 60000 (by norm_num)) (by norm_num)
  rw [(C07_steps_witness 0).1] at hv
  rw [(C07_steps_witness 0).2] at hw
  simp only [Res.ok.injEq] at hv hw
  omega

/-- `sum`, `maximum`, `minimum`, `average` are monotone in every member value. -/
theorem C07_fn_mono (indef : Int) {ty : String}
    (hty : ty = "sum" ∨ ty = "maximum" ∨ ty = "minimum" ∨ ty = "average") {vs ws : List Int}
    (hvw : List.Forall₂ (· ≤ ·) vs ws) (hv : ∀ v ∈ vs, 0 ≤ v ∧ v ≤ 255)
    (hw : ∀ w ∈ ws, 0 ≤ w ∧ w ≤ 255) (hl : vs.length ≤ 2 ^ 40)
    (hne : ty = "average" → vs ≠ []) :
    ∃ a b, evalFn indef ty vs = .ok a ∧ evalFn indef ty ws = .ok b ∧ a ≤ b :=
  evalFn_mono indef hty hvw hv hw hl hne

example : ∃ a b, evalFn (-2 ^ 63) "average" [10, 20] = .ok a ∧
    evalFn (-2 ^ 63) "average" [10, 21] = .ok b ∧ a ≤ b :=
  C07_fn_mono _ (by simp) (by simp) (by decide)
    (by decide) (by norm_num) (by simp)

def FnMonoStatement (indef : Int) (ty : String) : Prop :=
  ∀ vs ws : List Int, List.Forall₂ (· ≤ ·) vs ws → (∀ v ∈ vs, 0 ≤ v ∧ v ≤ 255) →
    (∀ w ∈ ws, 0 ≤ w ∧ w ≤ 255) →
    ∃ a b, evalFn indef ty vs = .ok a ∧ evalFn indef ty ws = .ok b ∧ a ≤ b

/-- `difference` must be excluded: raising the second member lowers the result
    (`100 - 0 = 100`, `100 - 50 = 50`). -/
theorem C07_fn_difference_not_mono (indef : Int) : ¬ FnMonoStatement indef "difference" := by
  intro h
  have hv : InRange [100, 0] := by unfold InRange; decide
  have hw : InRange [100, 50] := by unfold InRange; decide
  obtain ⟨a, b, ha, hb, hab⟩ := h _ _ (by simp) hv hw
  rw [evalFn_difference indef hv (by norm_num)] at ha
  rw [evalFn_difference indef hw (by norm_num)] at hb
  simp only [Res.ok.injEq, List.sum_cons, List.sum_nil] at ha hb
  omega

/-- `delta` must be excluded: raising the smallest member lowers the result
    (`100 - 0 = 100`, `100 - 100 = 0`). -/
theorem C07_fn_delta_not_mono (indef : Int) : ¬ FnMonoStatement indef "delta" := by
  intro h
  have hv : InRange [0, 100] := by unfold InRange; decide
  have hw : InRange [100, 100] := by unfold InRange; decide
  obtain ⟨a, b, ha, hb, hab⟩ := h _ _ (by simp) hv hw
  rw [evalFn_delta indef hv] at ha
  rw [evalFn_delta indef hw] at hb
  simp only [Res.ok.injEq, List.foldl_cons, List.foldl_nil] at ha hb
  omega

/-- **A whole monotone curve tree is monotone in the sensor averages.**
    `SensorsLe S S'`: every sensor of `S` exists in `S'` with `avg ≤ avg'` (Go `<=`, so no NaN).
    `WFMonoCurve S (cfgOf tbl) fuel id` (`Proofs/CurveTree.lean`): with depth ≤ `fuel`, leaves are
    linear curves (min/max form with 64-bit bounds, or steps satisfying the hypotheses of
    `C07_steps_mono`) on existing sensors, inner nodes are `sum` / `maximum` / `minimum` / `average`
    curves with 1..2^40 members. The two runs may start from different tables (e.g. the second from
    the table left by the first) as long as the configurations agree, and at different times. -/
theorem C07_tree_mono (indef : Int) (S S' : SensorTable) (hS : SensorsLe S S') (now now' : Int)
    (fuel : Nat) (tbl tbl' : CurveTable) (id : String) (hcfg : cfgOf tbl = cfgOf tbl')
    (h : WFMonoCurve S (cfgOf tbl) fuel id) :
    ∃ v v', (evalCurve indef S now fuel tbl id).2 = .ok v ∧
      (evalCurve indef S' now' fuel tbl' id).2 = .ok v' ∧ v ≤ v' :=
  let ⟨v, v', h1, h2, h3⟩ := evalCurve_mono indef S S' hS now now' fuel tbl tbl' id hcfg h
  ⟨v, v', h1, h2, h3.2.1⟩

/-- non-vacuity: `max(avg(a, b), a)` over a min/max leaf and a steps leaf; 45 °C vs 47 °C. -/
def exTable7 : CurveTable :=
  [ { id := "a", cfg := .linear "s" 40 60 none },
    { id := "b", cfg := .linear "s" 0 0 (some (toSteps exSteps7)) },
    { id := "f", cfg := .function "average" ["a", "b"] },
    { id := "g", cfg := .function "maximum" ["f", "a"] } ]
def exS7 (t : ℚ) : SensorTable := [("s", { avg := fin t, value := .ok (fin t) })]

theorem exS7_le : SensorsLe (exS7 45000) (exS7 47000) := by
  intro s sv h
  unfold exS7 SensorTable.get? at *
  simp only [List.find?_cons, List.find?_nil] at h ⊢
  cases hs : ("s" == s) <;> simp only [hs] at h ⊢
  · simp at h
  · simp only [Option.map_some, Option.some.injEq] at h
    subst h
    exact ⟨_, rfl, by simp only [le_fin_fin]; norm_num⟩

theorem exTable7_wf : WFMonoCurve (exS7 45000) (cfgOf exTable7) 3 "g" := by
  have hs : (exS7 45000).get? "s" = some { avg := fin 45000, value := .ok (fin 45000) } := rfl
  have ha : ∀ n, WFMonoCurve (exS7 45000) (cfgOf exTable7) (n + 1) "a" := fun n =>
    .minmax (mn := 40) (mx := 60) rfl (by norm_num) (by norm_num) hs
  have hb : WFMonoCurve (exS7 45000) (cfgOf exTable7) 1 "b" :=
    .steps (x := 40) (y := 0) (rest := [(50, 100), (60, 255)]) rfl
      (StepsOK.of_flat exSteps7_ok.1 exSteps7_ok.2.1) ⟨exSteps7_ok.2.2.1, exSteps7_ok.2.2.2⟩ hs
  have hf : WFMonoCurve (exS7 45000) (cfgOf exTable7) 2 "f" :=
    .fn (ty := "average") (members := ["a", "b"]) rfl (by simp [IsMonoFnType]) (by simp)
      (by norm_num) (by simpa using ⟨ha 0, hb⟩)
  exact .fn (ty := "maximum") (members := ["f", "a"]) rfl (by simp [IsMonoFnType]) (by simp)
    (by norm_num) (by simpa using ⟨hf, ha 1⟩)

example : ∃ v v', (evalCurve (-2 ^ 63) (exS7 45000) 0 3 exTable7 "g").2 = .ok v ∧
    (evalCurve (-2 ^ 63) (exS7 47000) 5 3 exTable7 "g").2 = .ok v' ∧ v ≤ v' :=
  C07_tree_mono _ _ _ exS7_le 0 5 3 _ _ "g" rfl exTable7_wf

/-- Direct control loop without `maxPwmChangePerCycle`: the requested PWM
    `rescale (clamp255 (loop value)) minPwm maxPwm` (controller.go:472) is non-decreasing in the
    curve value, whatever the current PWM. -/
theorem C07_request_mono (indef : Int) {c c' cur cur' lo hi : Int} (hc : |c| ≤ 2 ^ 53)
    (hc' : |c'| ≤ 2 ^ 53) (hcc : c ≤ c') (hlo : |lo| ≤ 2 ^ 50) (hhi : |hi| ≤ 2 ^ 50)
    (h : lo ≤ hi) :
    rescale indef (clamp255 (directCycle indef none c cur)) lo hi
      ≤ rescale indef (clamp255 (directCycle indef none c' cur')) lo hi := by
  rw [directCycle_none, directCycle_none]
  exact rescale_mono_of_le indef (clamp255_range _).1 (clamp255_monotone (clamp255_monotone hcc))
    (clamp255_range _).2 (hlo.trans (by norm_num)) (hhi.trans (by norm_num)) h

example : rescale (-2 ^ 63) (clamp255 (directCycle (-2 ^ 63) none 100 7)) 30 200
    ≤ rescale (-2 ^ 63) (clamp255 (directCycle (-2 ^ 63) none 101 9)) 30 200 :=
  C07_request_mono _ (by norm_num) (by norm_num) (by norm_num) (by norm_num) (by norm_num)
    (by norm_num)

end Fan2go

#print axioms Fan2go.C07_linear_mono
#print axioms Fan2go.C07_linear_mono_ext
#print axioms Fan2go.C07_steps_mono
#print axioms Fan2go.C07_interp_mono
#print axioms Fan2go.C07_steps_witness
#print axioms Fan2go.C07_steps_refuted
#print axioms Fan2go.C07_fn_mono
#print axioms Fan2go.C07_fn_difference_not_mono
#print axioms Fan2go.C07_fn_delta_not_mono
#print axioms Fan2go.C07_tree_mono
#print axioms Fan2go.C07_request_mono
