/-
  Regenerated-fact theorems: `Fan2go/Generated/Facts.lean` is rewritten from /repo's CURRENT sources
  by go/factgen on every check run; the expectations below are what the models and proofs assume.
  A source change that alters one of these facts breaks the corresponding theorem at `lake build`.
  Core Lean only; everything is closed-term evaluation, left to the kernel alone (`decide +kernel`:
  the elaborator's own evaluation of string comparisons costs twice the kernel's and proves nothing more).
-/
import Fan2go.Generated.Facts
namespace Fan2go
open Generated

def constOf (k : String) : Option String := (consts.find? (·.1 == k)).map (·.2)
def seqOf (k : String) : List String := ((sequences.find? (·.1 == k)).map (·.2)).getD []

def posOf (x : String) (l : List String) : Option Nat := l.findIdx? (· == x)

/-- `a` occurs and every occurrence of `b` comes after the first `a` -/
def precedesAll (a b : String) (l : List String) : Bool :=
  match posOf a l with
  | none => false
  | some i => (l.take i).all (· != b)

/-- the PWM scale (model: `clamp255`, `rescale … / 255`, restore to 255) -/
theorem fact_pwm_scale : constOf "MaxPwmValue" = some "255" ∧ constOf "MinPwmValue" = some "0" := by decide +kernel

/-- control modes (model: manual = 1, fallback = 0) -/
theorem fact_control_modes :
    constOf "ControlModeDisabled" = some "0" ∧ constOf "ControlModePWM" = some "1" ∧
    constOf "ControlModeAutomatic" = some "2" := by decide +kernel

/-- the six function-curve type strings (model: `evalFn`) -/
theorem fact_function_types :
    constOf "FunctionSum" = some "\"sum\"" ∧ constOf "FunctionDifference" = some "\"difference\"" ∧
    constOf "FunctionAverage" = some "\"average\"" ∧ constOf "FunctionDelta" = some "\"delta\"" ∧
    constOf "FunctionMinimum" = some "\"minimum\"" ∧ constOf "FunctionMaximum" = some "\"maximum\"" := by decide +kernel

/-- the two persistence buckets are different buckets (C14 isolation per kind) -/
theorem fact_buckets :
    constOf "BucketFans" = some "\"fans\"" ∧ constOf "BucketFanPwmMap" = some "\"fanPwmMap\"" := by decide +kernel

/-- default PID gains of the control loop (C04) -/
theorem fact_default_pid :
    constOf "DefaultPid.P" = some "0.3" ∧ constOf "DefaultPid.I" = some "0.02" ∧
    constOf "DefaultPid.D" = some "0.005" := by decide +kernel

/-- every external command of a cmd fan / cmd sensor runs under a 2 s deadline (C19) -/
theorem fact_exec_timeouts :
    constOf "timeout.fans/cmd.go.0" = some "2 * time.Second" ∧
    constOf "timeout.fans/cmd.go.1" = some "2 * time.Second" ∧
    constOf "timeout.fans/cmd.go.2" = some "2 * time.Second" ∧
    constOf "timeout.sensors/cmd.go.0" = some "2 * time.Second" := by decide +kernel

/-- default window sizes / option defaults the properties mention -/
theorem fact_defaults :
    constOf "viper.RpmRollingWindowSize" = some "10" ∧ constOf "viper.TempRollingWindowSize" = some "10" ∧
    constOf "viper.RunFanInitializationInParallel" = some "true" := by decide +kernel

/-! ### C16: the analysis steps lie inside the critical section -/

def seqInit := seqOf "internal/controller/controller.go:DefaultFanController.RunInitializationSequence"
def seqMap := seqOf "internal/controller/controller.go:DefaultFanController.computePwmMap"
def seqMapLocked := seqOf "internal/controller/controller.go:DefaultFanController.computePwmMapLocked"
def seqSweep := seqOf "internal/controller/controller.go:DefaultFanController.computePwmMapAutomatically"

/-- The regenerated `RunInitializationSequence`, read off once: looking a sequence up in the generated table
    compares long string keys, which is the dear part of every statement about it. -/
theorem seqInit_eq :
    seqInit = ["lock", "defer:unlock", "computePwmMapLocked", "manual", "loop{", "setPwm", "settle", "getRpm"] := by
  decide +kernel

/-- `RunInitializationSequence` takes the mutex (released by `defer`) before the sweep
    (`computePwmMapLocked`) and before every measurement step (`setPwm`, `settle`, `getRpm`); it never
    unlocks explicitly in between and does not call the self-locking `computePwmMap` (no deadlock). -/
theorem fact_init_locked :
    precedesAll "lock" "computePwmMapLocked" seqInit = true ∧
    precedesAll "lock" "setPwm" seqInit = true ∧ precedesAll "lock" "settle" seqInit = true ∧
    precedesAll "lock" "getRpm" seqInit = true ∧ precedesAll "lock" "manual" seqInit = true ∧
    seqInit.contains "defer:unlock" = true ∧ seqInit.contains "unlock" = false ∧
    seqInit.contains "computePwmMap" = false ∧
    seqInit.contains "setPwm" = true ∧ seqInit.contains "getRpm" = true := by rw [seqInit_eq]; decide +kernel

/-- `computePwmMap` (the other entry point, used by `Run`) wraps the same body in the mutex; the
    locked body itself neither locks nor unlocks and is where the sweep happens. -/
theorem fact_map_locked :
    seqMap = ["lock", "defer:unlock", "computePwmMapLocked"] ∧
    seqMapLocked.contains "lock" = false ∧ seqMapLocked.contains "unlock" = false ∧
    seqMapLocked.contains "sweep" = true ∧
    seqSweep.contains "fanSetPwm" = true ∧ seqSweep.contains "lock" = false := by decide +kernel

theorem seqMap_eq : seqMap = ["lock", "defer:unlock", "computePwmMapLocked"] := fact_map_locked.1

/-! ### C03: restore order and the shape of the daemon's actor group -/

def seqRestore := seqOf "internal/controller/controller.go:DefaultFanController.restorePwmEnabled"
def seqRun := seqOf "internal/controller/controller.go:DefaultFanController.Run"
def seqDaemon := seqOf "internal/backend.go:RunDaemon"
def seqUpdate := seqOf "internal/controller/controller.go:DefaultFanController.UpdateFanSpeed"

/-- `restorePwmEnabled`: original PWM, then the mode, then the full-speed fallback (model: `restorePwmEnabled`) -/
theorem fact_restore_order : seqRestore = ["fanSetPwm", "fanSetMode", "fanSetPwm"] := by decide +kernel

/-- `UpdateFanSpeed`: compute, re-assert manual mode, write (model: `updateFanSpeed`) -/
theorem fact_update_order : seqUpdate = ["calc", "manual", "setPwm"] := by decide +kernel

/-- `Run` restores on every exit path of the control-loop actor and on every start-up error path after
    the initialisation sequence may have run: one `restore` after `runInit`, one each for the failing
    second load / attach, and inside the loop one on `ctx.Done` and one after a failed `update` -/
theorem fact_run_restores :
    seqRun.filter (fun x => x != "func{" && x != "return") =
      ["runInit", "restore", "restore", "restore", "computePwmMap", "loop{", "loop{", "restore", "update", "restore"] := by decide +kernel

/-- split a call sequence into the bodies of its function literals -/
def splitFuncs : List String → List (List String)
  | [] => [[]]
  | x :: xs =>
    match splitFuncs xs with
    | [] => [[x]]
    | seg :: rest => if x == "func{" then [] :: seg :: rest else (x :: seg) :: rest

/-- every `return` in the segment is immediately preceded by `restore` -/
def returnsRestore : List String → Bool
  | [] => true
  | [_] => true
  | x :: y :: rest => (y != "return" || x == "restore") && returnsRestore (y :: rest)

/-- the control-loop actor of `Run` (the closure that calls `UpdateFanSpeed`): EVERY exit path of that
    closure calls `restorePwmEnabled` right before returning, and the closure does not start with a
    bare `return` -/
theorem fact_control_actor_exits_restore :
    ((splitFuncs seqRun).filter (·.contains "update")).length = 1 ∧
    ((splitFuncs seqRun).filter (·.contains "update")).all
      (fun seg => returnsRestore seg && seg.head? != some "return" && seg.contains "return") = true := by decide +kernel

/-- `RunDaemon`: the signal channel is registered and never closed nor unregistered, no actor panics,
    and the group is run exactly once -/
theorem fact_daemon_shape :
    seqDaemon.contains "signalNotify" = true ∧ seqDaemon.contains "close" = false ∧
    seqDaemon.contains "signalStop" = false ∧ seqDaemon.contains "panic" = false ∧
    (seqDaemon.filter (· == "groupRun")).length = 1 := by decide +kernel

/-! ### C08 / C19: the sensor start-up and the sensor monitor's loop -/

def seqInitSensors := seqOf "internal/backend.go:initializeSensors"
def seqMonitorRun := seqOf "internal/monitor.go:sensorMonitor.Run"

/-- `initializeSensors`: per configured sensor (inner loop: the hwmon controllers) the sensor is created, read ONCE, the
    moving average is seeded with that reading and only then is the sensor registered (so nothing polls it before the seed
    is in) - all in the start-up's own goroutine (no `go` statement) and with no timer (model: `sn.init`, the moving average
    starts at the first reading, or at 0 when that read fails) -/
theorem fact_init_sensors_seed_order :
    seqInitSensors = ["loop{", "loop{", "newSensor", "getValue", "setAvg", "register"] := by decide +kernel

/-- `sensorMonitor.Run`: ONE ticker at the configured rate, one `updateSensor` per tick inside the loop; the ticker is
    never re-armed (`tick.Reset`), no timers, no `go` statement, no `panic` (model: `sn.monitor`, a fold of `updateSensor`
    over the polls) -/
theorem fact_monitor_loop_shape :
    seqMonitorRun = ["newTicker", "loop{", "updateSensor"] := by decide +kernel


/-! ### C09: every syntactic crash site of the daemon-reachable packages is accounted for -/

/-- The complete list of `panic(` / `ui.Fatal` / `os.Exit` / `log.Fatal` / `MustCompile` / unchecked type
    assertion sites in the packages `RunDaemon` can reach; why none of them fires on a sensor / fan fault at
    a control cycle is said class by class at `C09_sites_accounted` (Props/C09.lean).
    A change that adds a crash site on a daemon path (or removes one) changes the generated table and
    breaks this theorem. -/
theorem fact_crash_sites :
    crashSites = [
      ("internal/backend.go", "RunDaemon", "ui.Fatal", 0, ""),
      ("internal/backend.go", "RunDaemon", "ui.Fatal", 1, ""),
      ("internal/backend.go", "RunDaemon", "ui.FatalWithoutStacktrace", 2, ""),
      ("internal/backend.go", "RunDaemon", "os.Exit", 3, ""),
      ("internal/backend.go", "RunDaemon", "os.Exit", 4, ""),
      ("internal/configuration/config.go", "DetectAndReadConfigFile", "ui.FatalWithoutStacktrace", 0, ""),
      ("internal/configuration/config.go", "InitConfig", "os.Exit", 0, ""),
      ("internal/configuration/config.go", "LoadConfig", "ui.Fatal", 0, ""),
      ("internal/controller/controller.go", "DefaultFanController.Run", "ui.Fatal", 0, ""),
      ("internal/controller/controller.go", "NewFanController", "ui.Fatal", 0, ""),
      ("internal/curves/curve.go", "SnapshotSpeedCurveMap", "typeassert", 0, "map[string]SpeedCurve"),
      ("internal/curves/functional.go", "FunctionSpeedCurve.Evaluate", "ui.Fatal", 0, ""),
      ("internal/fans/common.go", "SnapshotFanMap", "typeassert", 0, "map[string]Fan"),
      ("internal/hwmon/hwmon.go", "findPlatform", "MustCompile", 0, ""),
      ("internal/sensors/common.go", "SnapshotSensorMap", "typeassert", 0, "map[string]Sensor"),
      ("internal/ui/logging.go", "FatalWithoutStacktrace", "os.Exit", 0, ""),
      ("internal/util/file.go", "CheckFilePermissionsForExecution", "typeassert", 0, "*syscall.Stat_t"),
      ("internal/util/file.go", "FindFilesMatching", "ui.Fatal", 0, ""),
      ("internal/util/file.go", "FindFilesMatching", "panic", 1, ""),
      ("internal/util/file.go", "FindFilesMatching", "panic", 2, "")] := by decide +kernel

/-! ### C18 / C19: exec sites -/

/-- the only uses of os/exec in daemon-reachable packages: `SafeCmdExecution` (program = its
    `executable` parameter) and the three literal programs of `ui.NotifySend`; sensors and fans reach
    os/exec only through `SafeCmdExecution` -/
theorem fact_exec_sites :
    execSites = [
      ("internal/fans/cmd.go", "CmdFan.GetPwm", "SafeCmdExecution", 0, ""),
      ("internal/fans/cmd.go", "CmdFan.GetRpm", "SafeCmdExecution", 0, ""),
      ("internal/fans/cmd.go", "CmdFan.SetPwm", "SafeCmdExecution", 0, ""),
      ("internal/sensors/cmd.go", "CmdSensor.GetValue", "SafeCmdExecution", 0, ""),
      ("internal/ui/notification.go", "NotifySend", "exec.Command", 0, "\"who\""),
      ("internal/ui/notification.go", "NotifySend", "exec.Command", 1, "\"id\""),
      ("internal/ui/notification.go", "NotifySend", "exec.Command", 2, "\"sudo\""),
      ("internal/util/exec.go", "SafeCmdExecution", "exec.CommandContext", 0, "executable")] := by decide +kernel

def seqSafeCmd := seqOf "internal/util/exec.go:SafeCmdExecution"
def seqValidate := seqOf "internal/configuration/validation.go:validateConfig"

/-- inside `SafeCmdExecution` the permission check precedes the only exec, which runs under a deadline -/
theorem fact_check_dominates_exec :
    precedesAll "checkPerm" "exec" seqSafeCmd = true ∧ precedesAll "withTimeout" "exec" seqSafeCmd = true ∧
    (seqSafeCmd.filter (· == "exec")).length = 1 := by decide +kernel

/-- `validateConfig` applies the permission test to the configuration file when cmd sensors / fans exist -/
theorem fact_config_perm_rule :
    seqValidate = ["validateSensors", "validateCurves", "validateFans", "containsCmdSensors", "containsCmdFan", "checkPerm"] := by decide +kernel


/-! ### C11: the validator's checks, as the sequence of its error messages in source order -/

/-- The model `Model/Config.lean` states the validator's checks in exactly this order (one `VErr` constructor per
    message). A removed, added or reordered check changes the regenerated sequence and breaks this theorem, also
    where the configuration generators never produce the distinguishing input. -/
theorem fact_validator_checks :
    seqOf "validation:validateSensors" = [
      "duplicate sensor id detected: %s",
      "sensor %s: only one sensor type can be used per sensor defin",
      "sensor %s: sub-configuration for sensor is missing, use one ",
      "sensor %s: invalid index, must be >= 1"] ∧
    seqOf "validation:validateCurves" = [
      "duplicate curve id detected: %s",
      "curve %s: only one curve type can be used per curve definiti",
      "curve %s: sub-configuration for curve is missing, use one of",
      "curve %s: unsupported function type '%s', use one of: %s",
      "curve %s: function curves must reference at least one curve",
      "curve %s: a curve cannot reference itself",
      "curve %s: no curve definition with id '%s' found",
      "curve %s: missing sensorId",
      "curve %s: no sensor definition with id '%s' found",
      "curve %s: steps must contain at least one entry",
      "curve %s: missing sensorId",
      "curve %s: no sensor definition with id '%s' found",
      "curve %s: all PID constants are zero"] ∧
    seqOf "validation:validateFans" = [
      "duplicate fan id detected: %s",
      "fan %s: only one fan type can be used per fan definition blo",
      "fan %s: sub-configuration for fan is missing, use one of: hw",
      "fan %s: missing curve definition in configuration entry",
      "fan %s: no curve definition with id '%s' found",
      "fan %s: controlAlgorithm must be one of: direct | pid",
      "fan %s: invalid maxPwmChangePerCycle, must be > 0",
      "fan %s: all PID constants are zero",
      "fan %s: must have one of index or rpmChannel, must be >= 1",
      "fan %s: invalid index, must be >= 1",
      "fan %s: invalid rpmChannel, must be >= 1",
      "fan %s: invalid pwmChannel, must be >= 1",
      "fan %s: no file path provided",
      "fan %s: missing setPwm configuration",
      "fan %s: setPwm executable is missing",
      "fan %s: missing getPwm configuration",
      "fan %s: getPwm executable is missing"] ∧
    seqOf "validation:validateNoLoops" = [
      "you have created a curve dependency cycle: %v"] ∧
    seqOf "validation:validateConfig" = [
      "config file '%s' has invalid permissions: %s"] := by decide +kernel

/-! ### C15: CLI bodies re-stated in the harness -/

theorem fact_cli_bodies :
    seqOf "cmd/fan/reset.go" = ["p.DeleteFanPwmData", "p.DeleteFanPwmMap"] ∧
    seqOf "cmd/fan/init.go" = ["controller.NewFanController", "p.DeleteFanPwmData", "p.DeleteFanPwmMap",
                               "fanController.RunInitializationSequence"] := by decide +kernel

end Fan2go
