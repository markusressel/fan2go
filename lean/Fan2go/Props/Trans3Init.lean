import Fan2go.Props.Trans3InitOps
import Fan2go.Props.Trans2Keys
import Fan2go.Props.GoMRun
import Fan2go.Proofs.Analysis
namespace Fan2go
open F64 Fan2go.Startup Fan2go.Analysis

namespace T3I

theorem run_liftRes {σ α : Type} (r : Res α) (s : σ) : (Go.liftRes r : GoM σ α) s = (r, s) := GoM.run_liftRes r s
theorem run_deref_none {σ α : Type} (s : σ) : (Go.deref (none : Option α) : GoM σ α) s = (.panic "nil", s) :=
  GoM.run_deref_none s
theorem run_deref_some {σ α : Type} (a : α) (s : σ) : (Go.deref (some a) : GoM σ α) s = (.ok a, s) :=
  GoM.run_deref_some a s

variable (indef : Int) (ph : Phys) (cfg : FanCfg) (fan : FanSt)

theorem i_getMap (s : InitSt) : (initOps indef ph cfg fan).get_pwmMap s = (.ok s.pwmMap, s) := rfl
theorem i_setMap (s : InitSt) (m) : (initOps indef ph cfg fan).set_pwmMap m s = (.ok (), { s with pwmMap := m }) := rfl
theorem i_sort (s : InitSt) (a : Array Int) : (initOps indef ph cfg fan).sortInts a s
    = (.ok (a.toList.mergeSort (fun x y => decide (x ≤ y))).toArray, s) := rfl
theorem i_setDistinct (s : InitSt) (a : Array Int) : (initOps indef ph cfg fan).set_pwmValuesWithDistinctTarget a s
    = (.ok (), { s with distinct := a.toList }) := rfl
theorem i_tag (s : InitSt) : (initOps indef ph cfg fan).typeTag_fan s
    = (.ok (match cfg.kind with | .hwmon => 0 | .cmd => 1 | .file => 2), s) := rfl
theorem i_cfgMap (s : InitSt) : (initOps indef ph cfg fan).get_fan_Config_PwmMap s = (.ok cfg.cfgMap, s) := rfl
theorem i_id (s : InitSt) : (initOps indef ph cfg fan).fan_GetId s = (.ok "id", s) := rfl
theorem i_load (s : InitSt) (x : String) : (initOps indef ph cfg fan).persistence_LoadFanPwmMap x s
    = (.ok (match s.stored with | some m => (some m, none) | none => (none, some "not found")), s) := rfl
theorem i_save (s : InitSt) (x : String) (m) : (initOps indef ph cfg fan).persistence_SaveFanPwmMap x m s
    = (.ok none, { s with stored := m }) := rfl
theorem i_setPwm (s : InitSt) (v : Int) : (initOps indef ph cfg fan).fan_SetPwm v s = (.ok none, { s with regs := ph.write s.regs v }) := rfl
theorem i_getPwm (s : InitSt) : (initOps indef ph cfg fan).fan_GetPwm s
    = (.ok (if cfg.pwmRead then (s.regs.pwm, none) else (0, some "read")), s) := rfl
theorem i_supports0 (s : InitSt) : (initOps indef ph cfg fan).fan_Supports 0 s = (.ok cfg.pwmRead, s) := rfl
theorem i_interp (s : InitSt) : (initOps indef ph cfg fan).interpolateLinearlyInt (some [(0, 0), (255, 255)]) 0 255 s
    = (.ok (some (defaultPwmMap indef)), s) := by
  show ((if _ then _ else _), s) = _
  simp
theorem i_manual (s : InitSt) : (initOps indef ph cfg fan).trySetManualPwm s
    = (.ok none, { s with regs := trySetManual ph cfg s.regs }) := rfl
theorem i_getStart (s : InitSt) : (initOps indef ph cfg fan).fan_GetStartPwm s = (.ok fan.getStart, s) := rfl

attribute [gom] i_getMap i_setMap i_sort i_setDistinct i_tag i_cfgMap i_id i_load i_save i_setPwm i_getPwm i_supports0
  i_interp i_manual i_getStart

theorem sweep_loop {σ : Type} (mk : InitSt → σ)
    (f : Int → Option (List (Int × Int)) → GoM σ (ForInStep (Option (List (Int × Int)))))
    (hf : ∀ i acc t, f i (some acc) (mk t) = (.ok (.yield (some (Go.mapPut acc i (ph.write t.regs i).pwm))),
      mk { t with regs := ph.write t.regs i })) :
    ∀ (n : Nat) (t : InitSt) (acc : List (Int × Int)), (∀ p ∈ acc.head?, (n : Int) < p.1) →
      forIn (Go.downFrom (n : Int) 0) (some acc) f (mk t)
        = (.ok (some (sweepFrom ph n t.regs acc).2), mk { t with regs := (sweepFrom ph n t.regs acc).1 }) := by
  intro n
  induction n with
  | zero =>
    intro t acc h
    -- `h` bounds `((0 : Nat) : Int)`; after `Go.downFrom_zero` the one pass runs on the literal `0`: the same by
    -- reduction
    have h' : ∀ p ∈ acc.head?, (0 : Int) < p.1 := h
    rw [Go.downFrom_zero, List.forIn_cons, GoM.run_bind, hf, Go.mapPut_lt _ _ _ h']
    rfl
  | succ n ih =>
    intro t acc h
    rw [Go.downFrom_succ, List.forIn_cons, GoM.run_bind, hf, Go.mapPut_lt _ _ _ h]
    exact ih _ _ (by simp)

abbrev Lifts {σ α : Type} (mk : InitSt → σ) (m' : GoM σ α) (m : GoM InitSt α) : Prop :=
  ∀ t, m' (mk t) = ((m t).1, mk (m t).2)

/-- `RunInitializationSequence` (Props/Trans3RunInit.lean) runs the four methods below on a richer state. They are tied
    once, for any `ops` that acts on the states `mk t` as `initOps` acts on `t`, in the fields the four methods use. -/
structure Acts {σ : Type} (ops : Generated3.InitOps σ) (mk : InitSt → σ) : Prop where
  getMap : Lifts mk ops.get_pwmMap (initOps indef ph cfg fan).get_pwmMap
  setMap (m) : Lifts mk (ops.set_pwmMap m) ((initOps indef ph cfg fan).set_pwmMap m)
  sort (a) : Lifts mk (ops.sortInts a) ((initOps indef ph cfg fan).sortInts a)
  setDistinct (a) : Lifts mk (ops.set_pwmValuesWithDistinctTarget a)
    ((initOps indef ph cfg fan).set_pwmValuesWithDistinctTarget a)
  tag : Lifts mk ops.typeTag_fan (initOps indef ph cfg fan).typeTag_fan
  cfgMap : Lifts mk ops.get_fan_Config_PwmMap (initOps indef ph cfg fan).get_fan_Config_PwmMap
  id : Lifts mk ops.fan_GetId (initOps indef ph cfg fan).fan_GetId
  load (x) : Lifts mk (ops.persistence_LoadFanPwmMap x) ((initOps indef ph cfg fan).persistence_LoadFanPwmMap x)
  save (x m) : Lifts mk (ops.persistence_SaveFanPwmMap x m) ((initOps indef ph cfg fan).persistence_SaveFanPwmMap x m)
  setPwm (v) : Lifts mk (ops.fan_SetPwm v) ((initOps indef ph cfg fan).fan_SetPwm v)
  getPwm : Lifts mk ops.fan_GetPwm (initOps indef ph cfg fan).fan_GetPwm
  supports0 : Lifts mk (ops.fan_Supports 0) ((initOps indef ph cfg fan).fan_Supports 0)
  interp : Lifts mk (ops.interpolateLinearlyInt (some [(0, 0), (255, 255)]) 0 255)
    ((initOps indef ph cfg fan).interpolateLinearlyInt (some [(0, 0), (255, 255)]) 0 255)
  manual : Lifts mk ops.trySetManualPwm (initOps indef ph cfg fan).trySetManualPwm
  getStart : Lifts mk ops.fan_GetStartPwm (initOps indef ph cfg fan).fan_GetStartPwm

theorem initActs : Acts indef ph cfg fan (initOps indef ph cfg fan) id := by
  constructor <;> intros <;> exact fun _ => rfl

section
variable {indef ph cfg fan} {σ : Type} {ops : Generated3.InitOps σ} {mk : InitSt → σ}

theorem Acts.applyPwmMapping (H : Acts indef ph cfg fan ops mk) (t : InitSt) (k : Int) :
    Generated3.init_applyPwmMapping indef ops k (mk t) = (.ok (Go.mapGetOpt t.pwmMap k), mk t) := by
  unfold Generated3.init_applyPwmMapping
  simp only [gom, H.getMap _]

theorem Acts.computePwmMapAutomatically (H : Acts indef ph cfg fan ops mk) (c : CtlSt) (st : DStore) (r : Regs) :
    Generated3.init_computePwmMapAutomatically indef ops (mk (eraseCtl c st r))
      = (.ok (), mk (eraseCtl (computeAuto indef ph cfg fan c r).2.1 st (computeAuto indef ph cfg fan c r).2.2)) := by
  unfold Generated3.init_computePwmMapAutomatically
  cases hp : cfg.pwmRead
  · simp only [gom, H.supports0 _, H.interp _, H.setMap _ _, hp]
    simp [computeAuto, hp, eraseCtl]
  · simp only [gom, H.supports0 _, H.manual _, hp, not_true_eq_false, if_false]
    rw [show (255 : Int) = ((255 : Nat) : Int) from rfl, sweep_loop ph mk _ (fun i acc t => by
      simp only [gom, H.setPwm _ _, H.getPwm _, hp, ne_eq, not_true_eq_false, if_false, if_true]) 255 _ []
      (by simp)]
    simp only [gom, H.setMap _ _, H.getStart _, H.applyPwmMapping, H.setPwm _ _]
    simp [computeAuto, hp, eraseCtl, sweep, Go.mapGetOpt, Go.mapGet_eq]

theorem Acts.computePwmMapLocked (H : Acts indef ph cfg fan ops mk) (c : CtlSt) (st : DStore) (r : Regs) :
    Generated3.init_computePwmMapLocked indef ops (mk (eraseCtl c st r))
      = (.ok none, mk (eraseCtl (computePwmMapLockedD indef ph cfg fan c st r).2.1
                                (computePwmMapLockedD indef ph cfg fan c st r).2.2.1
                                (computePwmMapLockedD indef ph cfg fan c st r).2.2.2)) := by
  unfold Generated3.init_computePwmMapLocked
  have hauto := H.computePwmMapAutomatically c st r
  cases hk : cfg.kind <;> cases hm : cfg.cfgMap <;>
    simp only [gom, H.tag _, H.cfgMap _, H.setMap _ _, H.id _, H.load _ _, H.getMap _, H.save _ _ _, hk, hm, ne_eq,
      not_true_eq_false, if_false, if_true, reduceCtorEq, not_false_eq_true, Int.reduceEq, hauto]
  all_goals
    unfold computePwmMapLockedD
    simp only [hm]
    cases hs : st.map <;> cases hc : c.pwmMap <;> simp [eraseCtl, hs, hc]

theorem Acts.updateDistinctPwmValues (H : Acts indef ph cfg fan ops mk) (c : CtlSt) (st : DStore) (r : Regs)
    (hs : ∀ p, c.pwmMap = some p → SortedMap p.2) :
    Generated3.init_updateDistinctPwmValues indef ops (mk (eraseCtl c st r))
      = (.ok (), mk (eraseCtl (updateDistinct c) st r)) := by
  unfold Generated3.init_updateDistinctPwmValues
  have hsm : SortedMap ((eraseCtl c st r).pwmMap.getD []) := by
    unfold eraseCtl
    cases h : c.pwmMap with
    | none => simp [SortedMap]
    | some p => simpa using hs p h
  simp only [gom, H.getMap _, H.sort _ _, H.setDistinct _ _, trans2_util_ExtractKeysWithDistinctValues indef _ hsm]
  have hsorted := extractKeys_sorted _ hsm
  rw [List.mergeSort_of_pairwise (le := fun x y => decide (x ≤ y))]
  · unfold updateDistinct eraseCtl
    cases h : c.pwmMap <;> simp [extractKeys, extractKeysAux]
  · exact hsorted.imp (fun h => by simpa using Int.le_of_lt h)
end

/-- Go's lookup in the map that `eraseCtl` and `eraseRun` keep of the controller's -/
theorem mapGetOpt_erased (c : CtlSt) (k : Int) : Go.mapGetOpt (c.pwmMap.map (·.2)) k = c.mapping k := by
  unfold CtlSt.mapping Go.mapGetOpt
  cases c.pwmMap <;> simp [Go.mapGet_eq]

end T3I
open T3I

variable (indef : Int) (ph : Phys) (cfg : FanCfg) (fan : FanSt) (c : CtlSt) (st : DStore) (r : Regs)

theorem trans3_init_applyPwmMapping (k : Int) :
    Generated3.init_applyPwmMapping indef (initOps indef ph cfg fan) k (eraseCtl c st r)
      = (.ok (c.mapping k), eraseCtl c st r) := by
  rw [← mapGetOpt_erased]
  exact (initActs indef ph cfg fan).applyPwmMapping (eraseCtl c st r) k

/-- `computePwmMapAutomatically`: the default map for a fan whose PWM cannot be read, else manual mode, the 255 → 0 sweep
    with read-back, and the start PWM written through the new map -/
theorem trans3_init_computePwmMapAutomatically :
    Generated3.init_computePwmMapAutomatically indef (initOps indef ph cfg fan) (eraseCtl c st r)
      = (.ok (), eraseCtl (computeAuto indef ph cfg fan c r).2.1 st (computeAuto indef ph cfg fan c r).2.2) :=
  (initActs indef ph cfg fan).computePwmMapAutomatically c st r

/-- `computePwmMapLocked`: configured map, else stored map, else (unless the controller already has one) the automatic
    detection, and the save -/
theorem trans3_init_computePwmMapLocked :
    Generated3.init_computePwmMapLocked indef (initOps indef ph cfg fan) (eraseCtl c st r)
      = (.ok none, eraseCtl (computePwmMapLockedD indef ph cfg fan c st r).2.1
                            (computePwmMapLockedD indef ph cfg fan c st r).2.2.1
                            (computePwmMapLockedD indef ph cfg fan c st r).2.2.2) :=
  (initActs indef ph cfg fan).computePwmMapLocked c st r

/-- `updateDistinctPwmValues`, for a key-sorted map (what every map of the model is: `sort.Ints` then changes nothing) -/
theorem trans3_init_updateDistinctPwmValues
    (hs : ∀ p, c.pwmMap = some p → SortedMap p.2) :
    Generated3.init_updateDistinctPwmValues indef (initOps indef ph cfg fan) (eraseCtl c st r)
      = (.ok (), eraseCtl (updateDistinct c) st r) :=
  (initActs indef ph cfg fan).updateDistinctPwmValues c st r hs

end Fan2go

#print axioms Fan2go.trans3_init_applyPwmMapping
#print axioms Fan2go.trans3_init_computePwmMapAutomatically
#print axioms Fan2go.trans3_init_computePwmMapLocked
#print axioms Fan2go.trans3_init_updateDistinctPwmValues
