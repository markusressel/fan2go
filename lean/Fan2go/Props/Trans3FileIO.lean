/-
  `util.ReadIntFromFile`, `util.WriteIntToFile`, `util.WriteIntToFileAtomic`, `util.resolvePath`, regenerated from
  internal/util/file.go on every run, against the specification-level model of Model/FileIO.lean.
-/
import Fan2go.Generated.Trans3
import Fan2go.Model.FileIO
import Fan2go.Props.GoMRun
import Fan2go.Props.GoSemLemmas
namespace Fan2go

/-- the operations of file.go over the model file system -/
def fileIoOps (trim : String → String) (atoi : String → Int × Option String) : Generated3.FileIoOps FS where
  readFile := fun p fs => (.ok (match fs.content p with | some c => (c, none) | none => ("", some "read")), fs)
  trimSpace := fun s fs => (.ok (trim s), fs)
  atoi := fun s fs => (.ok (atoi s), fs)
  evalSymlinks := fun p fs => (.ok (match fs.resolve p with | some r => (r, none) | none => ("", some "resolve")), fs)
  writeFile := fun p s _ fs => (.ok (fs.write p s).2, (fs.write p s).1)
  atomicWriteFile := fun p s fs => (.ok (fs.write p s).2, (fs.write p s).1)

variable (indef : Int) (trim : String → String) (atoi : String → Int × Option String) (fs : FS)

namespace T3IO
theorem fio_read (p : String) : (fileIoOps trim atoi).readFile p fs
    = (.ok (match fs.content p with | some c => (c, none) | none => ("", some "read")), fs) := rfl
theorem fio_trim (s : String) : (fileIoOps trim atoi).trimSpace s fs = (.ok (trim s), fs) := rfl
theorem fio_atoi (s : String) : (fileIoOps trim atoi).atoi s fs = (.ok (atoi s), fs) := rfl
theorem fio_eval (p : String) : (fileIoOps trim atoi).evalSymlinks p fs
    = (.ok (match fs.resolve p with | some r => (r, none) | none => ("", some "resolve")), fs) := rfl
theorem fio_write (p s : String) (m : Int) :
    (fileIoOps trim atoi).writeFile p s m fs = (.ok (fs.write p s).2, (fs.write p s).1) := rfl
theorem fio_atomic (p s : String) :
    (fileIoOps trim atoi).atomicWriteFile p s fs = (.ok (fs.write p s).2, (fs.write p s).1) := rfl

attribute [gom] fio_read fio_trim fio_atoi fio_eval fio_write fio_atomic
end T3IO

theorem trans3_util_ReadIntFromFile (path : String) :
    Generated3.util_ReadIntFromFile indef (fileIoOps trim atoi) path fs = (.ok (readIntSpec trim atoi fs path), fs) := by
  unfold Generated3.util_ReadIntFromFile readIntSpec
  simp only [gom]
  cases fs.content path with
  | none => simp [gom]
  | some c => by_cases hl : Go.lenS c ≤ 0 <;> simp [gom, hl]

/-- a write goes to the path `EvalSymlinks` gives AT THAT WRITE (to the path as given when it cannot be resolved), and what
    is written is the decimal text of the value -/
theorem trans3_util_WriteIntToFile (value : Int) (path : String) :
    Generated3.util_WriteIntToFile indef (fileIoOps trim atoi) value path fs
      = (.ok (writeIntSpec fs value path).2, (writeIntSpec fs value path).1) := by
  unfold Generated3.util_WriteIntToFile Generated3.util_resolvePath writeIntSpec writeTarget
  simp only [gom]
  cases fs.resolve path with
  | none => simp [gom, Go.lenS_empty]
  | some r => by_cases hl : Go.lenS r > 0 <;> simp [gom, hl]

theorem trans3_util_WriteIntToFileAtomic (value : Int) (path : String) :
    Generated3.util_WriteIntToFileAtomic indef (fileIoOps trim atoi) value path fs
      = (.ok (writeIntSpec fs value path).2, (writeIntSpec fs value path).1) := by
  -- `fileIoOps` gives `atomicWriteFile` the meaning of `writeFile`, and the two methods differ in nothing else
  show Generated3.util_WriteIntToFile indef (fileIoOps trim atoi) value path fs = _
  exact trans3_util_WriteIntToFile indef trim atoi fs value path

/-- consequence: after the configured path has been re-pointed, the next write reaches the NEW target (C05: the device
    the path leads to now) -/
theorem trans3_write_follows_repoint (value : Int) (path newTarget : String) (h : fs.resolve path = some newTarget)
    (hl : Go.lenS newTarget > 0) (hw : fs.readOnly newTarget = false) :
    ((Generated3.util_WriteIntToFile indef (fileIoOps trim atoi) value path fs).2).content newTarget = some (Go.itoa value) := by
  rw [trans3_util_WriteIntToFile]
  simp [writeIntSpec, writeTarget, h, hl, FS.write, hw]

end Fan2go

#print axioms Fan2go.trans3_util_ReadIntFromFile
#print axioms Fan2go.trans3_util_WriteIntToFile
#print axioms Fan2go.trans3_util_WriteIntToFileAtomic
#print axioms Fan2go.trans3_write_follows_repoint
