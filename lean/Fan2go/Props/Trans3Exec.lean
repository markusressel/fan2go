/-
  Running an external command (C18, C19): `Generated3.util_SafeCmdExecution`, regenerated from internal/util/exec.go on
  every run, against the model's `safeCmd` / `runCmd` (Model/Exec.lean).

  The model describes a call by its OUTCOME per behaviour of the external process. Here that outcome is split into the part
  that is os/exec's (`rawOutput`: what `cmd.Output()` returns and whether the context's deadline has passed when it
  returns — the semantics recorded at the head of Model/Exec.lean) and the part that is fan2go's: the decision logic of
  `SafeCmdExecution` (permission test first, nothing started when it fails, no success after the deadline, output dropped
  on any error, newline trimming), which is the translated code. `_checked` says that the two parts compose to the model's
  `runCmd` (which is `safeCmd` once the permission test has passed). `_refused` states the outcome of a refused call, not
  `safeCmd`'s text: the translator renders `fmt.Errorf("cannot execute %s: %s", …)` as the fixed string "cannot execute".
-/
import Fan2go.Generated.Trans3
import Fan2go.Model.Exec
import Fan2go.Props.GoMRun
namespace Fan2go

/-- `cmd.Output()` of os/exec with `WaitDelay = 200 ms`, per behaviour of the process: (stdout, error, "the deadline has
    passed when Output returns"). On an `*exec.ExitError` `Output` still returns what was captured. -/
def rawOutput (beh : Beh) (timeout : Nat) : String × Option String × Bool :=
  if timeout = 0 then ("", some "context deadline exceeded", true)
  else
  match beh with
  | .startError => ("", some "fork/exec", false)
  | .exits code out => if code = 0 then (out, none, false) else (out, some "exit status", false)
  | .killedBySignal out => (out, some "signal", false)
  | .outlivesDeadline _ => ("", some "signal: killed", true)
  | .grandchildHoldsStdout out hold =>
    match hold with
    | .ms h =>
      if h < cmdWaitDelayMs then (out, none, decide (timeout ≤ h))
      else (out, some "exec: WaitDelay expired before I/O complete", decide (timeout ≤ cmdWaitDelayMs))
    | .forever => (out, some "exec: WaitDelay expired before I/O complete", decide (timeout ≤ cmdWaitDelayMs))

/-- what a call of `SafeCmdExecution` leaves behind: whether `cmd.Output()` was reached (`attempted`), the path the
    permission test was made on, and the path handed to `exec.CommandContext` -/
structure ExecSt where
  attempted : Bool := false
  checked : Option String := none
  started : Option String := none
  deriving DecidableEq, Repr

/-- the operations of `SafeCmdExecution`. `baseOf` is `filepath.Base`, `look` is `exec.LookPath` (`none` = not found in
    `$PATH`); the permission test's verdict `perm` is that of the file the test is made on. -/
def execOps (baseOf : String → String) (look : String → Option String) (perm : PermOut) (beh : Beh) (timeout : Nat) :
    Generated3.ExecOps ExecSt where
  base := fun p s => (.ok (baseOf p), s)
  lookPath := fun p s => (.ok (match look p with | some r => (r, none) | none => ("", some "not found")), s)
  commandContext := fun p s => (.ok (), { s with started := some p })
  checkPerm := fun p s =>
    (match perm with
     | .ok (.ok ()) => .ok (true, none)
     | .ok (.error e) => .ok (false, some e)
     | .err e => .err e
     | .panic p => .panic p, { s with checked := some p })
  cmdOutput := fun s => (.ok ((rawOutput beh timeout).1, (rawOutput beh timeout).2.1), { s with attempted := true })
  ctxErr := fun s => (.ok (if (rawOutput beh timeout).2.2 then some "context deadline exceeded" else none), s)
  stringsTrim := fun str cut s => (if cut = "\n" then .ok (trimNl str) else .panic "trim-cutset", s)

/-- the path the call works with: a bare command name is replaced by what `$PATH` yields, when it yields something -/
def execPath (baseOf : String → String) (look : String → Option String) (exe : String) : String :=
  if baseOf exe = exe then (match look exe with | some r => r | none => exe) else exe

/-- Go's `(string, error)` for the model's outcome of a call that got past the permission test -/
def execPair : Except String String → String × Option String
  | .ok s => (s, none)
  | .error m => ("", some m)

def execResGo : Res (Except String String) → Res (String × Option String)
  | .ok r => .ok (execPair r)
  | .err e => .err e
  | .panic p => .panic p

/-- fan2go's own part of the call: what it makes of `cmd.Output()`'s answer (exec.go:38-60) -/
def execDecide (o : String × Option String × Bool) : String × Option String :=
  if o.2.2 then ("", if o.2.1 = none then some "context deadline exceeded" else o.2.1)
  else if o.2.1 ≠ none then ("", o.2.1) else (trimNl o.1, none)

section
variable (baseOf : String → String) (look : String → Option String) (perm : PermOut) (beh : Beh) (timeout : Nat)
  (s : ExecSt)

namespace T3E
theorem e_base (p : String) : (execOps baseOf look perm beh timeout).base p s = (.ok (baseOf p), s) := rfl
theorem e_look (p : String) : (execOps baseOf look perm beh timeout).lookPath p s
    = (.ok (match look p with | some r => (r, none) | none => ("", some "not found")), s) := rfl
theorem e_start (p : String) : (execOps baseOf look perm beh timeout).commandContext p s
    = (.ok (), { s with started := some p }) := rfl
theorem e_perm (p : String) : (execOps baseOf look perm beh timeout).checkPerm p s
    = (match perm with
       | .ok (.ok ()) => .ok (true, none)
       | .ok (.error e) => .ok (false, some e)
       | .err e => .err e
       | .panic p => .panic p, { s with checked := some p }) := rfl
theorem e_out : (execOps baseOf look perm beh timeout).cmdOutput s
    = (.ok ((rawOutput beh timeout).1, (rawOutput beh timeout).2.1), { s with attempted := true }) := rfl
theorem e_ctxErr : (execOps baseOf look perm beh timeout).ctxErr s
    = (.ok (if (rawOutput beh timeout).2.2 then some "context deadline exceeded" else none), s) := rfl
theorem e_trim (str : String) : (execOps baseOf look perm beh timeout).stringsTrim str "\n" s
    = (.ok (trimNl str), s) := rfl

attribute [gom] e_base e_look e_start e_perm e_out e_ctxErr e_trim
end T3E

theorem T3E.safeCmdExecution_eq (indef : Int) (exe : String) (args : Array String) (t : Int) :
    Generated3.util_SafeCmdExecution indef (execOps baseOf look perm beh timeout) exe args t s =
      match perm with
      | .ok (.ok ()) => (.ok (execDecide (rawOutput beh timeout)),
          { attempted := true, checked := some (execPath baseOf look exe), started := some (execPath baseOf look exe) })
      | .ok (.error _) => (.ok ("", some "cannot execute"), { s with checked := some (execPath baseOf look exe) })
      | .err e => (.err e, { s with checked := some (execPath baseOf look exe) })
      | .panic p => (.panic p, { s with checked := some (execPath baseOf look exe) }) := by
  unfold Generated3.util_SafeCmdExecution execPath execDecide
  simp only [gom]
  generalize rawOutput beh timeout = o
  rcases o with ⟨out, err, dl⟩
  -- the three ways of arriving at the path leave the same rest
  by_cases hb : baseOf exe = exe <;> cases look exe <;> simp only [hb, ↓reduceIte, reduceCtorEq]
  all_goals
    match perm with
    | .ok (.ok ()) => cases dl <;> cases err <;> simp
    | .ok (.error _) => rfl
    | .err _ => rfl
    | .panic _ => rfl

theorem runCmd_res : execResGo (runCmd beh timeout).res = .ok (execDecide (rawOutput beh timeout)) := by
  unfold runCmd rawOutput execDecide
  by_cases ht : timeout = 0
  · simp [ht, execResGo, execPair]
  · cases beh with
    | exits code out => by_cases hc : code = 0 <;> simp [ht, hc, execResGo, execPair]
    | grandchildHoldsStdout out hold =>
      cases hold with
      | forever => simp [ht, execResGo, execPair]
      | ms h =>
        by_cases h2 : h < cmdWaitDelayMs <;> by_cases h3 : h < timeout <;>
          simp [ht, h2, h3, execResGo, execPair, Nat.not_le.mpr, Nat.not_lt.mp]
    | _ => simp [ht, execResGo, execPair]
end

variable (baseOf : String → String) (look : String → Option String)

theorem trans3_util_SafeCmdExecution_checked (indef : Int) (beh : Beh) (timeout : Nat) (exe : String) (args : Array String) (t : Int) :
    Generated3.util_SafeCmdExecution indef (execOps baseOf look (.ok (.ok ())) beh timeout) exe args t {}
      = (execResGo (runCmd beh timeout).res,
         { attempted := true, checked := some (execPath baseOf look exe), started := some (execPath baseOf look exe) }) := by
  rw [T3E.safeCmdExecution_eq, runCmd_res]

theorem trans3_util_SafeCmdExecution_refused (indef : Int) (e : String) (beh : Beh) (timeout : Nat) (exe : String) (args : Array String) (t : Int) :
    Generated3.util_SafeCmdExecution indef (execOps baseOf look (.ok (.error e)) beh timeout) exe args t {}
      = (.ok ("", some "cannot execute"), { attempted := false, checked := some (execPath baseOf look exe), started := none }) :=
  T3E.safeCmdExecution_eq ..

/-- whatever the verdict: the file handed to `exec.CommandContext`, if any, is the file the permission test was made on -/
theorem trans3_exec_starts_what_it_checked (indef : Int) (perm : PermOut) (beh : Beh) (timeout : Nat) (exe : String) (args : Array String) (t : Int) :
    let s := (Generated3.util_SafeCmdExecution indef (execOps baseOf look perm beh timeout) exe args t {}).2
    s.started = none ∨ s.started = s.checked := by
  rw [T3E.safeCmdExecution_eq]
  rcases perm with ((_|_)|_|_) <;> simp

end Fan2go

#print axioms Fan2go.trans3_util_SafeCmdExecution_checked
#print axioms Fan2go.trans3_util_SafeCmdExecution_refused
#print axioms Fan2go.trans3_exec_starts_what_it_checked
