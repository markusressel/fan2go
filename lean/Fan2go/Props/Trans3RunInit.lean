import Fan2go.Props.Trans3RunInitOps
import Fan2go.Props.Trans3Init
namespace Fan2go
open F64 Fan2go.Startup Fan2go.Analysis

namespace T3R
open T3I
variable (indef : Int) (ph : Phys) (cfg : FanCfg)

theorem r_getMap (s : RunInitSt) : (runInitOps indef ph cfg).get_pwmMap s = (.ok s.pwmMap, s) := rfl
theorem r_setMap (s : RunInitSt) (m) : (runInitOps indef ph cfg).set_pwmMap m s = (.ok (), { s with pwmMap := m }) := rfl
theorem r_sort (s : RunInitSt) (a : Array Int) : (runInitOps indef ph cfg).sortInts a s
    = (.ok (a.toList.mergeSort (fun x y => decide (x ≤ y))).toArray, s) := rfl
theorem r_setDistinct (s : RunInitSt) (a : Array Int) : (runInitOps indef ph cfg).set_pwmValuesWithDistinctTarget a s
    = (.ok (), { s with distinct := a.toList }) := rfl
theorem r_getDistinct (s : RunInitSt) : (runInitOps indef ph cfg).get_pwmValuesWithDistinctTarget s
    = (.ok s.distinct.toArray, s) := rfl
theorem r_tag (s : RunInitSt) : (runInitOps indef ph cfg).typeTag_fan s
    = (.ok (match cfg.kind with | .hwmon => 0 | .cmd => 1 | .file => 2), s) := rfl
theorem r_cfgMap (s : RunInitSt) : (runInitOps indef ph cfg).get_fan_Config_PwmMap s = (.ok cfg.cfgMap, s) := rfl
theorem r_id (s : RunInitSt) : (runInitOps indef ph cfg).fan_GetId s = (.ok "id", s) := rfl
theorem r_load (s : RunInitSt) (x : String) : (runInitOps indef ph cfg).persistence_LoadFanPwmMap x s
    = (.ok (match s.stored with | some m => (some m, none) | none => (none, some "not found")), s) := rfl
theorem r_save (s : RunInitSt) (x : String) (m) : (runInitOps indef ph cfg).persistence_SaveFanPwmMap x m s
    = (.ok none, { s with stored := m }) := rfl
theorem r_par (s : RunInitSt) : (runInitOps indef ph cfg).get_cfg_RunFanInitializationInParallel s = (.ok true, s) := rfl
theorem r_settle (s : RunInitSt) : (runInitOps indef ph cfg).waitForFanToSettle s = (.ok (), s) := rfl
theorem r_setRpmAvg (s : RunInitSt) (x : F64) : (runInitOps indef ph cfg).fan_SetRpmAvg x s = (.ok (), s) := rfl
theorem r_saveData (s : RunInitSt) : (runInitOps indef ph cfg).persistence_SaveFanPwmData s
    = (.ok none, { s with storedRpm := curveOf cfg s.fan }) := rfl
theorem r_attach (s : RunInitSt) (d) : (runInitOps indef ph cfg).fan_AttachFanRpmCurveData d s
    = (.ok (match (s.fan.attach indef d).2 with | .ok () => none | .err e => some e | .panic p => some p),
       { s with fan := (s.fan.attach indef d).1 }) := rfl
theorem r_ctlGetPwm (s : RunInitSt) : (runInitOps indef ph cfg).getPwm s
    = (.ok (getPwm cfg s.fan s.ctl s.regs, none), s) := rfl
theorem r_ctlSetPwm (s : RunInitSt) (t : Int) : (runInitOps indef ph cfg).setPwm t s
    = (match setPwm ph cfg s.ctl s.regs t with
       | .ok (c', r') => (.ok none, { s with lastSet := c'.lastSet, regs := r' })
       | .err e => (.ok (some e), s)
       | .panic p => (.panic p, s)) := rfl
theorem r_getRpm (s : RunInitSt) : (runInitOps indef ph cfg).fan_GetRpm s
    = (.ok (if cfg.hasRpm then (s.regs.rpm, none) else (0, some "read")), s) := rfl
theorem r_setPwm (s : RunInitSt) (v : Int) : (runInitOps indef ph cfg).fan_SetPwm v s = (.ok none, { s with regs := ph.write s.regs v }) := rfl
theorem r_supports0 (s : RunInitSt) : (runInitOps indef ph cfg).fan_Supports 0 s = (.ok cfg.pwmRead, s) := rfl
theorem r_supports1 (s : RunInitSt) : (runInitOps indef ph cfg).fan_Supports 1 s = (.ok cfg.hasRpm, s) := rfl
theorem r_manual (s : RunInitSt) : (runInitOps indef ph cfg).trySetManualPwm s
    = (.ok none, { s with regs := trySetManual ph cfg s.regs }) := rfl
theorem r_getStart (s : RunInitSt) : (runInitOps indef ph cfg).fan_GetStartPwm s = (.ok s.fan.getStart, s) := rfl

-- left out: `r_getDistinct`, `r_saveData`, `r_attach`, `r_manual`, `r_ctlSetPwm`, which are restated below on the states
-- `eraseRun …` (`run_getDistinct` … `run_ctlSetPwm`) so that the state after the call is again of that form
attribute [gom] r_getMap r_setMap r_sort r_setDistinct r_tag r_cfgMap r_id r_load r_save r_par r_settle
  r_setRpmAvg r_setPwm r_ctlGetPwm r_getRpm r_supports0 r_supports1 r_getStart

theorem applyMapping_run (s : RunInitSt) (k : Int) :
    Generated3.init_applyPwmMapping indef (runInitOps indef ph cfg) k s = (.ok (Go.mapGetOpt s.pwmMap k), s) := rfl

theorem putF_eq : ∀ (m : List (Int × F64)) (k : Int) (v : F64), putF m k v = Go.mapPut m k v
  | [], k, v => rfl
  | (k', v') :: rest, k, v => by
    simp only [putF, Go.mapPut, putF_eq rest k v]

end T3R
open T3I T3R

variable (indef : Int) (ph : Phys) (cfg : FanCfg) (fan : FanSt) (c : CtlSt) (st : DStore) (r : Regs)

def RunInitSt.over (lastSet : Option Int) (storedRpm : Option (List (Int × F64))) (fan : FanSt) (t : InitSt) : RunInitSt :=
  { pwmMap := t.pwmMap, distinct := t.distinct, lastSet := lastSet, stored := t.stored, storedRpm := storedRpm,
    regs := t.regs, fan := fan }

theorem runActs (lastSet : Option Int) (storedRpm : Option (List (Int × F64))) :
    Acts indef ph cfg fan (runInitOps indef ph cfg) (RunInitSt.over lastSet storedRpm fan) := by
  constructor <;> intros <;> exact fun _ => rfl

theorem eraseRun_over : eraseRun c st r fan = RunInitSt.over c.lastSet st.rpm fan (eraseCtl c st r) := rfl

theorem lockedD_keeps : (computePwmMapLockedD indef ph cfg fan c st r).2.1.lastSet = c.lastSet
    ∧ (computePwmMapLockedD indef ph cfg fan c st r).2.2.1.rpm = st.rpm := by
  unfold computePwmMapLockedD computeAuto
  cases cfg.cfgMap <;> cases st.map <;> cases c.pwmMap <;> cases cfg.pwmRead <;> exact ⟨rfl, rfl⟩

theorem trans3_run_computePwmMapAutomatically :
    Generated3.init_computePwmMapAutomatically indef (runInitOps indef ph cfg) (eraseRun c st r fan)
      = (.ok (), eraseRun (computeAuto indef ph cfg fan c r).2.1 st (computeAuto indef ph cfg fan c r).2.2 fan) := by
  have hl : (computeAuto indef ph cfg fan c r).2.1.lastSet = c.lastSet := by
    unfold computeAuto; cases cfg.pwmRead <;> rfl
  rw [eraseRun_over, eraseRun_over, hl]
  exact (runActs indef ph cfg fan _ _).computePwmMapAutomatically c st r

theorem trans3_run_computePwmMapLocked :
    Generated3.init_computePwmMapLocked indef (runInitOps indef ph cfg) (eraseRun c st r fan)
      = (.ok none, eraseRun (computePwmMapLockedD indef ph cfg fan c st r).2.1
                            (computePwmMapLockedD indef ph cfg fan c st r).2.2.1
                            (computePwmMapLockedD indef ph cfg fan c st r).2.2.2 fan) := by
  rw [eraseRun_over, eraseRun_over, (lockedD_keeps indef ph cfg fan c st r).1, (lockedD_keeps indef ph cfg fan c st r).2]
  exact (runActs indef ph cfg fan _ _).computePwmMapLocked c st r

theorem trans3_run_updateDistinctPwmValues
    (hs : ∀ p, c.pwmMap = some p → SortedMap p.2) :
    Generated3.init_updateDistinctPwmValues indef (runInitOps indef ph cfg) (eraseRun c st r fan)
      = (.ok (), eraseRun (updateDistinct c) st r fan) :=
  (runActs indef ph cfg fan _ _).updateDistinctPwmValues c st r hs

theorem ctl_mapping (k : Int) : (eraseRun c st r fan).ctl.mapping k = c.mapping k := by
  unfold CtlSt.mapping RunInitSt.ctl eraseRun
  cases c.pwmMap <;> rfl

theorem run_mapping (k : Int) : Go.mapGetOpt (eraseRun c st r fan).pwmMap k = c.mapping k :=
  mapGetOpt_erased c k

theorem run_ctlGetPwm : getPwm cfg (eraseRun c st r fan).fan (eraseRun c st r fan).ctl (eraseRun c st r fan).regs
    = getPwm cfg fan c r := rfl

theorem run_ctlSetPwm (t : Int) : (runInitOps indef ph cfg).setPwm t (eraseRun c st r fan)
    = (match setPwm ph cfg c r t with
       | .ok (c', r') => (.ok none, eraseRun c' st r' fan)
       | .err e => (.ok (some e), eraseRun c st r fan)
       | .panic p => (.panic p, eraseRun c st r fan)) := by
  rw [r_ctlSetPwm]
  unfold setPwm
  simp only [ctl_mapping, show (eraseRun c st r fan).ctl.distinct = c.distinct from rfl,
    show (eraseRun c st r fan).regs = r from rfl]
  cases findClosest t c.distinct.toArray with
  | ok v =>
    simp only
    by_cases hh : (cfg.pwmRead && c.mapping v == r.pwm) = true
    · simp only [hh, if_true]; rfl
    · simp only [hh]; rfl
  | err e => rfl
  | panic p => rfl

/-- the error variable and the first-measurement flag the loop carries along are not read after it: hence `∃ e' fl` -/
theorem meas_loop
    (f : Int → Option (Option String) × Option String × Option (List (Int × F64)) × Bool →
      GoM RunInitSt (ForInStep (Option (Option String) × Option String × Option (List (Int × F64)) × Bool)))
    (hf : ∀ pwm err0 acc flag c0 r0, f pwm (none, err0, some acc, flag) (eraseRun c0 st r0 fan) =
      match setPwm ph cfg c0 r0 pwm with
      | .ok (c', r') =>
        if getPwm cfg fan c' r' = c'.mapping pwm then
          (.ok (.yield (none, none, some (Go.mapPut acc pwm (ofInt r'.rpm)), false)), eraseRun c' st r' fan)
        else (.ok (.yield (none, none, some acc, flag)), eraseRun c' st r' fan)
      | .err e => (.ok (.done (some (some e), some e, some acc, flag)), eraseRun c0 st r0 fan)
      | .panic p => (.panic p, eraseRun c0 st r0 fan)) :
    ∀ (ds : List Int) (c0 : CtlSt) (r0 : Regs) (acc : List (Int × F64)) (err0 : Option String) (flag : Bool),
    ∃ (e' : Option String) (fl : Bool),
    forIn ds ((none : Option (Option String)), err0, some acc, flag) f (eraseRun c0 st r0 fan)
    = ((match (measureLoop ph cfg fan ds c0 r0 acc).res with
        | .ok () => .ok (none, e', some (measureLoop ph cfg fan ds c0 r0 acc).data, fl)
        | .err e => .ok (some (some e), e', some (measureLoop ph cfg fan ds c0 r0 acc).data, fl)
        | .panic p => .panic p),
       eraseRun (measureLoop ph cfg fan ds c0 r0 acc).ctl st (measureLoop ph cfg fan ds c0 r0 acc).regs fan) := by
  intro ds
  induction ds with
  | nil => exact fun c0 r0 acc err0 flag => ⟨err0, flag, rfl⟩
  | cons pwm rest ih =>
    intro c0 r0 acc err0 flag
    rw [List.forIn_cons, GoM.run_bind, hf, measureLoop]
    cases setPwm ph cfg c0 r0 pwm with
    | err e => exact ⟨some e, flag, rfl⟩
    | panic p => exact ⟨none, flag, rfl⟩
    | ok v =>
      obtain ⟨c', r'⟩ := v
      by_cases hne : getPwm cfg fan c' r' = c'.mapping pwm
      · obtain ⟨e', fl, h⟩ := ih c' r' (Go.mapPut acc pwm (ofInt r'.rpm)) none false
        exact ⟨e', fl, by simp only [hne, if_true, ne_eq, not_true_eq_false, if_false, putF_eq, h]⟩
      · obtain ⟨e', fl, h⟩ := ih c' r' acc none flag
        exact ⟨e', fl, by simp only [hne, if_false, ne_eq, not_false_eq_true, if_true, h]⟩

theorem run_saveMap (x : String) :
    (runInitOps indef ph cfg).persistence_SaveFanPwmMap x (eraseRun c st r fan).pwmMap (eraseRun c st r fan)
      = (.ok none, eraseRun c { st with map := c.pwmMap } r fan) := rfl
theorem run_manual : (runInitOps indef ph cfg).trySetManualPwm (eraseRun c st r fan)
    = (.ok none, eraseRun c st (trySetManual ph cfg r) fan) := rfl
theorem run_getDistinct : (runInitOps indef ph cfg).get_pwmValuesWithDistinctTarget (eraseRun c st r fan)
    = (.ok c.distinct.toArray, eraseRun c st r fan) := rfl
theorem run_attach (d) : (runInitOps indef ph cfg).fan_AttachFanRpmCurveData d (eraseRun c st r fan)
    = (.ok (match (fan.attach indef d).2 with | .ok () => none | .err e => some e | .panic p => some p),
       eraseRun c st r (fan.attach indef d).1) := rfl
theorem run_saveData : (runInitOps indef ph cfg).persistence_SaveFanPwmData (eraseRun c st r fan)
    = (.ok none, eraseRun c { st with rpm := curveOf cfg fan } r fan) := rfl

theorem lockedD_sorted
    (hcfg : ∀ m, cfg.cfgMap = some m → SortedMap m)
    (hst : ∀ p, st.map = some p → SortedMap p.2)
    (hc : ∀ p, c.pwmMap = some p → SortedMap p.2) :
    ∀ p, (computePwmMapLockedD indef ph cfg fan c st r).2.1.pwmMap = some p → SortedMap p.2 := by
  intro p hp
  unfold computePwmMapLockedD at hp
  split at hp
  · next m hm => cases hp; exact hcfg m hm
  · split at hp
    · next sm hsm => cases hp; exact hst _ hsm
    · dsimp only at hp
      split at hp
      · -- the automatic detection leaves the default map or a swept one
        unfold computeAuto at hp
        split at hp <;> simp only [Option.some.injEq] at hp <;> subst hp <;> dsimp only
        · rw [defaultPwmMap_eq]; exact sweptMap_sorted _
        · rw [sweep_map]; exact sweptMap_sorted _
      · exact hc _ hp

/-- `RunInitializationSequence` = `runInitD`: same final controller fields, stored entries, registers and fan object; it
    returns nil exactly when the model's run is `ok`. Maps are key-sorted (as every map of the model is). That the
    model's run reaches no panic site (`.crash = none`; the site is a `setPwm` of the measurement loop that panics) is a
    hypothesis here; Proofs/AnalysisRuns.lean concludes it, as `Swept.crash`, for the first analysis of a hwmon fan
    (`runInitD_swept`, and `initD_swept`, `startD_swept` for the two runs that call it). -/
theorem trans3_init_RunInitializationSequence
    (hcfg : ∀ m, cfg.cfgMap = some m → SortedMap m)
    (hst : ∀ p, st.map = some p → SortedMap p.2)
    (hc : ∀ p, c.pwmMap = some p → SortedMap p.2)
    (hcrash : (runInitD indef ph cfg fan c st r).crash = none) :
    ∃ e : Option String,
      Generated3.init_RunInitializationSequence indef (runInitOps indef ph cfg) (eraseRun c st r fan)
        = (.ok e, eraseRun (runInitD indef ph cfg fan c st r).ctl (runInitD indef ph cfg fan c st r).store
                           (runInitD indef ph cfg fan c st r).regs (runInitD indef ph cfg fan c st r).fan)
      ∧ (e.isNone = (runInitD indef ph cfg fan c st r).ok) := by
  unfold Generated3.init_RunInitializationSequence
  have hlock := trans3_run_computePwmMapLocked indef ph cfg fan c st r
  have hsorted := lockedD_sorted indef ph cfg fan c st r hcfg hst hc
  generalize hL : computePwmMapLockedD indef ph cfg fan c st r = L at hlock hsorted
  obtain ⟨a1, c1, st1, r1⟩ := L
  simp only at hlock hsorted  -- projections of the tuple
  have hupd := trans3_run_updateDistinctPwmValues indef ph cfg fan c1 { st1 with map := c1.pwmMap } r1 hsorted
  simp only [gom, hlock, run_saveMap, hupd, ne_eq, ite_self]
  cases hr : cfg.hasRpm
  · refine ⟨none, ?_⟩
    simp [runInitD, hL, hr]
  · simp only [gom, run_manual, run_getDistinct, List.forIn_toArray]
    generalize hloop : (forIn (m := GoM RunInitSt) (_ : List Int) _ _ : RunInitSt → _) _ = R
    obtain ⟨e', fl, rfl⟩ : ∃ e' fl, R = _ := by
      rw [← hloop]
      refine meas_loop ph cfg fan _ _ (fun pwm err0 acc flag c0 r0 => ?_) _ _ _ _ _ _
      simp only [gom, run_ctlSetPwm]
      cases setPwm ph cfg c0 r0 pwm with
      | err e => simp [gom]
      | panic p => rfl
      | ok v =>
        obtain ⟨c', r'⟩ := v
        have hrpm : ∀ st', (eraseRun c' st' r' fan).regs.rpm = r'.rpm := fun _ => rfl
        simp only [gom, T3R.applyMapping_run, run_mapping, run_ctlGetPwm, not_true_eq_false, if_false]
        by_cases hne : getPwm cfg fan c' r' = c'.mapping pwm
        · cases flag <;>
            simp only [gom, hne, not_true_eq_false, if_false, if_true, hr, hrpm, Bool.false_eq_true]
        · simp only [hne, not_false_eq_true, if_true, if_false]
    simp only [gom, not_true_eq_false, if_false]
    rw [runInitD.eq_def] at hcrash ⊢
    simp only [hL, hr, Bool.not_true, Bool.false_eq_true, if_false] at hcrash ⊢
    generalize measureLoop ph cfg fan (updateDistinct c1).distinct (updateDistinct c1) (trySetManual ph cfg r1) [] = mo
      at hcrash ⊢
    obtain ⟨mc, mr, md, mres⟩ := mo
    rcases mres with ⟨⟨⟩⟩ | e | p
    · simp only [gom, run_attach]
      generalize FanSt.attach indef fan (some md) = at'
      obtain ⟨fan', ares⟩ := at'
      rcases ares with ⟨⟨⟩⟩ | e | p
      · exact ⟨none, rfl, rfl⟩
      · exact ⟨some e, rfl, rfl⟩
      · exact ⟨some p, rfl, rfl⟩
    · exact ⟨some e, rfl, rfl⟩
    · cases hcrash

end Fan2go

#print axioms Fan2go.trans3_init_RunInitializationSequence
