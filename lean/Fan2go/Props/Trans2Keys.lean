import Fan2go.Generated.Trans2
import Fan2go.Props.Trans
import Fan2go.Props.GoSemLemmas
namespace Fan2go

/-- one pass of the loop of `ExtractKeysWithDistinctValues` on the state `(result, lastDistinctOutput)` -/
def extractStep (s : Array Int × Int) (p : Int × Int) : Array Int × Int :=
  if s.2 = -1 ∨ s.2 ≠ p.2 then (s.1.push p.1, p.2) else s

theorem extract_fold (m : List (Int × Int)) : ∀ (res : Array Int) (last : Int),
    (m.foldl extractStep (res, last)).1 = res ++ (extractKeysAux last m).toArray := by
  induction m with
  | nil => intro res last; simp [extractKeysAux]
  | cons p rest ih =>
    intro res last
    rw [List.foldl_cons, extractKeysAux, extractStep]
    split <;> simp [ih]

theorem trans2_util_ExtractKeysWithDistinctValues (indef : Int) (m : List (Int × Int)) (h : SortedMap m) :
    Generated2.util_ExtractKeysWithDistinctValues indef m = .ok (extractKeys m).toArray := by
  unfold Generated2.util_ExtractKeysWithDistinctValues
  simp only [Go.sortedKeys]
  rw [Go.forIn_keys_fold _ extractStep m (fun k s => by unfold extractStep; split <;> rfl) h, Res.ok_bind]
  exact congrArg Res.ok ((extract_fold m _ _).trans (Array.empty_append ..))

/-- one pass of the loop of `ComputePwmBoundaries` on the state `(startPwm, maxPwm, maxRpm)`; the model's
    `boundariesLoop` carries `(maxRpm, maxPwm, startPwm)` -/
def boundsStep (indef : Int) (s : Int × Int × Int) (p : Int × F64) : Int × Int × Int :=
  (if F64.toInt indef p.2 > 0 ∧ p.1 < s.1 then p.1 else s.1,
   if F64.toInt indef p.2 > s.2.2 then (p.1, F64.toInt indef p.2) else s.2)

theorem bounds_fold (indef : Int) (data : List (Int × F64)) : ∀ (startPwm maxPwm maxRpm : Int),
    data.foldl (boundsStep indef) (startPwm, maxPwm, maxRpm)
      = ((boundariesLoop indef data (maxRpm, maxPwm, startPwm)).2.2,
         (boundariesLoop indef data (maxRpm, maxPwm, startPwm)).2.1,
         (boundariesLoop indef data (maxRpm, maxPwm, startPwm)).1) := by
  induction data with
  | nil => intros; rfl
  | cons p rest ih =>
    intro startPwm maxPwm maxRpm
    obtain ⟨k, v⟩ := p
    simp only [List.foldl_cons, boundariesLoop, boundsStep]
    split <;> split <;> exact ih ..

theorem trans2_fans_ComputePwmBoundaries (indef : Int) (data : List (Int × F64)) (userStart : Int) (h : SortedMap data) :
    Generated2.fans_ComputePwmBoundaries indef data userStart () = .ok (computePwmBoundaries indef userStart data) := by
  unfold Generated2.fans_ComputePwmBoundaries
  simp only [Go.sortedKeys, Array.empty_append, List.toList_toArray]
  rw [Go.forIn_keys_fold _ (boundsStep indef) data (fun k s => by unfold boundsStep; split <;> split <;> rfl) h,
    Res.ok_bind, bounds_fold]
  simp only [computePwmBoundaries]
  split <;> rfl

#print axioms trans2_util_ExtractKeysWithDistinctValues
#print axioms trans2_fans_ComputePwmBoundaries
end Fan2go
