/-
  C14  Stored fan data round-trips and is isolated per fan and per kind
       (internal/persistence/persistence.go)

  All theorems are about the executable model `Fan2go.Persist` (Model/Persist.lean), for ARBITRARY
  database states and ARBITRARY, unboundedly long operation sequences (`run db ops`, induction over
  the list). The model is tied to the Go code by the `ps` correspondence stream
  (go/harness/persist.go vs Driver/PersistStream.lean on the same random operation files).

  ASSUMED, not proved here (these are properties of third-party code the model takes as given):
  * bbolt (go.etcd.io/bbolt): `db.Update` is atomic and durable – a transaction takes effect
    entirely or not at all, also when the process is killed at any moment (this is what
    `CrashDuringSave` encodes), and what was committed is what a later `bolt.Open` of the file sees
    (this is why `reopen` is the identity on the model state); `bolt.Open` itself succeeds;
    buckets are independent finite maps from non-empty keys (≤ 32768 bytes) to byte strings.
  * encoding/json: `Unmarshal (Marshal m) = m` for `map[int]float64` without NaN/±Inf and for
    `map[int]int` (nil ↦ `null` ↦ nil); `Marshal` fails exactly on NaN/±Inf; `Unmarshal` of bytes
    that are not JSON leaves the target untouched. (The model stores the decoded value, not bytes.)
  * Go `int` keys/values are within 64 bits (the model uses unbounded `Int`).

  A "slot" is a pair (kind, fan id). `abs db k id : Option (Blob _)` is the content of a slot;
  `(load db k id).2` is what `Load*` returns, `(load db k id).1` the file afterwards.
-/
import Fan2go.Proofs.Persist
namespace Fan2go
open Persist

/-- Every operation sequence produces on the model (buckets that may or may not exist, key/value
    lists, deletion of corrupt entries inside `load`) exactly the outputs of the specification
    (one total function from slots to optional contents), and the abstraction commutes. -/
theorem C14_refinement (db : Db) (ops : List Op) :
    (run db ops).2 = (Spec.run (abs db) ops).2 ∧ abs (run db ops).1 = (Spec.run (abs db) ops).1 :=
  ⟨(run_refines db ops).2, (run_refines db ops).1⟩

theorem C14_abs_empty : abs Db.empty = Spec.empty := by
  funext k id; cases k <;> rfl

/-- … in particular from a freshly created database file. -/
theorem C14_refinement_fresh (ops : List Op) : (run Db.empty ops).2 = (Spec.run Spec.empty ops).2 := by
  rw [← C14_abs_empty]; exact (C14_refinement Db.empty ops).1

example : (run Db.empty [.load .rpm "a", .save .pwmMap "a" none, .load .pwmMap "a"]).2
    = (Spec.run Spec.empty [.load .rpm "a", .save .pwmMap "a" none, .load .pwmMap "a"]).2 :=
  C14_refinement_fresh _

/-- After a successful `save k id arg` (key acceptable to bbolt, `arg` encodable to `v`), and then
    ANY sequence of operations none of which is a save / delete / putRaw on the same slot – loads
    of that slot, reopening, and arbitrary operations on other fans or on the other kind are all
    allowed – `load k id` returns `v`. Holds from every database state, so it covers overwriting. -/
theorem C14_roundtrip (db : Db) (k : Kind) (id : String) (arg v : k.Val) (ops : List Op)
    (hkey : keyOk id = true) (henc : encode k arg = .ok v)
    (hops : ∀ op ∈ ops, op.writes k id = false) :
    (save db k id arg).2 = .ok () ∧ (load (run (save db k id arg).1 ops).1 k id).2 = .ok v := by
  obtain ⟨hok, habs⟩ := save_ok db k id arg v hkey henc
  refine ⟨hok, ?_⟩
  rw [load_out, run_keeps_valid _ ops k id v (by rw [habs]; exact Spec.set_same _ _ _ _) hops]
  rfl

/-- RPM-curve data (`SaveFanPwmData` / `LoadFanPwmData`): any map with finite values comes back unchanged. -/
theorem C14_roundtrip_rpm (db : Db) (id : String) (m : List (Int × F64)) (ops : List Op)
    (hkey : keyOk id = true) (hfin : allFinite m = true)
    (hops : ∀ op ∈ ops, op.writes .rpm id = false) :
    (loadRpm (run (saveRpm db id (some m)).1 ops).1 id).2 = .ok (some m) :=
  (C14_roundtrip db .rpm id (some m) (some m) ops hkey (by simp [encode, hfin]) hops).2

/-- PWM map (`SaveFanPwmMap` / `LoadFanPwmMap`): any map (the nil map included) comes back unchanged. -/
theorem C14_roundtrip_pwmMap (db : Db) (id : String) (m : Option (List (Int × Int))) (ops : List Op)
    (hkey : keyOk id = true) (hops : ∀ op ∈ ops, op.writes .pwmMap id = false) :
    (loadMap (run (saveMap db id m).1 ops).1 id).2 = .ok m :=
  (C14_roundtrip db .pwmMap id m m ops hkey rfl hops).2

-- non-vacuity: a negative key, other-kind traffic on the same id, a reopen, a delete of another fan
example :
    (loadMap (run (saveMap Db.empty "fanA" (some [(-3, 7), (1, 2)])).1
      [.load .rpm "fanA", .reopen, .save .rpm "fanA" (some []), .delete .pwmMap "fanB",
       .putRaw .rpm "fanA" (.corrupt none), .load .rpm "fanA", .load .pwmMap "fanA"]).1 "fanA").2
      = .ok (some [(-3, 7), (1, 2)]) :=
  C14_roundtrip_pwmMap Db.empty "fanA" _ _ (by decide) (by simp [Op.writes])

example :
    (loadRpm (run (saveRpm Db.empty "fanA" (some [(-5, F64.fin 0), (20, F64.fin (1801 / 2))])).1
      [.save .pwmMap "fanA" none, .delete .rpm "fanB", .reopen]).1 "fanA").2
      = .ok (some [(-5, F64.fin 0), (20, F64.fin (1801 / 2))]) :=
  C14_roundtrip_rpm Db.empty "fanA" _ _ (by decide) (by simp [allFinite, F64.isFinite]) (by simp [Op.writes])

/-- An operation leaves every slot other than its own untouched: content and `load` result.
    `(k', id') ≠ (k, id)` includes "same fan id, other kind" and "same kind, other fan". -/
theorem C14_isolation (db : Db) (op : Op) (k' : Kind) (id' : String)
    (h : op.target ≠ some (k', id')) :
    abs (step db op).1 k' id' = abs db k' id' ∧
    (load (step db op).1 k' id').2 = (load db k' id').2 := by
  have := step_frame db op k' id' h
  exact ⟨this, load_congr this⟩

/-- the same for a whole sequence of operations none of which is about slot `(k', id')` -/
theorem C14_isolation_run (db : Db) (ops : List Op) (k' : Kind) (id' : String)
    (h : ∀ op ∈ ops, op.target ≠ some (k', id')) :
    abs (run db ops).1 k' id' = abs db k' id' ∧
    (load (run db ops).1 k' id').2 = (load db k' id').2 := by
  have := run_frame db ops k' id' h
  exact ⟨this, load_congr this⟩

/-- the special case singled out in the property: same fan id, other kind -/
theorem C14_isolation_other_kind (db : Db) (op : Op) (k k' : Kind) (id : String)
    (ht : op.target = some (k, id)) (hk : k' ≠ k) :
    (load (step db op).1 k' id).2 = (load db k' id).2 :=
  (C14_isolation db op k' id (by rw [ht]; intro e; cases e; exact hk rfl)).2

example (db : Db) : (load (step db (.delete .rpm "fanA")).1 .pwmMap "fanA").2 = (load db .pwmMap "fanA").2 :=
  C14_isolation_other_kind db _ .rpm .pwmMap "fanA" rfl (by decide)

example (db : Db) : (load (step db (.save .rpm "fanA" (some []))).1 .rpm "fanB").2 = (load db .rpm "fanB").2 :=
  (C14_isolation db _ .rpm "fanB" (by simp [Op.target])).2

/-- `load` only ever answers "here is the map" or "not found"; it has no other failure
    (given that the db file can be opened). -/
theorem C14_load_total (db : Db) (k : Kind) (id : String) :
    (∃ v, (load db k id).2 = .ok v) ∨ (load db k id).2 = .err "notfound" := by
  rw [load_out]
  rcases abs db k id with _ | v | p
  · exact .inr rfl
  · exact .inl ⟨v, rfl⟩
  · exact .inl ⟨p, rfl⟩

/-- Loading a slot that was never stored into (no save / putRaw on it since the file was created)
    reports "not found", whatever else happened in between. -/
theorem C14_missing (ops : List Op) (k : Kind) (id : String)
    (h : ∀ op ∈ ops, op.stores k id = false) :
    (load (run Db.empty ops).1 k id).2 = .err "notfound" := by
  rw [load_out, run_keeps_absent Db.empty ops k id (by rw [C14_abs_empty]; rfl) h]
  rfl

example : (load (run Db.empty [.save .rpm "fanA" (some []), .save .pwmMap "fanB" none,
    .delete .pwmMap "fanA", .load .pwmMap "fanA"]).1 .pwmMap "fanA").2 = .err "notfound" :=
  C14_missing _ .pwmMap "fanA" (by simp [Op.stores])

/-- `delete` always succeeds; afterwards the slot is "not found"; a second delete (or a delete of
    something that was never there) succeeds as well and changes nothing at all. -/
theorem C14_delete_idem (db : Db) (k : Kind) (id : String) :
    (delete db k id).2 = .ok () ∧
    (load (delete db k id).1 k id).2 = .err "notfound" ∧
    delete (delete db k id).1 k id = ((delete db k id).1, .ok ()) ∧
    (abs db k id = none → delete db k id = (db, .ok ())) := by
  obtain ⟨hout, hset, habsent⟩ := delete_spec db k id
  have habs : abs (delete db k id).1 k id = none := by rw [hset]; exact Spec.set_same _ _ _ _
  refine ⟨hout, ?_, (delete_spec _ k id).2.2 habs, habsent⟩
  rw [load_out, habs]; rfl

example : (delete Db.empty .rpm "fanA").2 = .ok () := (C14_delete_idem _ _ _).1
example : delete Db.empty .rpm "fanA" = (Db.empty, .ok ()) := (C14_delete_idem _ _ _).2.2.2 rfl

/-- An undecodable entry (`json.Unmarshal` fails and leaves `p` in the map variable; `p = none`,
    a nil map, for bytes that are not JSON) is discarded by the first `load`, which – as the Go code
    does – returns `p` with a NIL error; the next `load` reports "not found"; all other slots are
    untouched. No `load` ever fails because of it (`C14_load_total`). -/
theorem C14_corrupt_discarded (db : Db) (k : Kind) (id : String) (p : k.Val)
    (h : abs db k id = some (.corrupt p)) :
    (load db k id).2 = .ok p ∧
    (load (load db k id).1 k id).2 = .err "notfound" ∧
    (∀ k' id', (k', id') ≠ (k, id) → abs (load db k id).1 k' id' = abs db k' id') := by
  have habs : abs (load db k id).1 = (abs db).set k id none := by rw [(load_spec db k id).2, h]
  refine ⟨by rw [load_out, h]; rfl, ?_, ?_⟩
  · rw [load_out, habs, Spec.set_same]; rfl
  · intro k' id' hne
    rw [habs]; exact Spec.set_ne _ _ hne

/-- the same, starting from the injection of garbage bytes -/
theorem C14_corrupt_discarded_putRaw (db : Db) (k : Kind) (id : String) (p : k.Val)
    (hkey : keyOk id = true) :
    let db1 := (putRaw db k id (.corrupt p)).1
    (load db1 k id).2 = .ok p ∧ (load (load db1 k id).1 k id).2 = .err "notfound" ∧
    (∀ k' id', (k', id') ≠ (k, id) → abs (load db1 k id).1 k' id' = abs db k' id') := by
  have hput := ((putRaw_spec db k id (.corrupt p)).1 hkey).2
  have hc := C14_corrupt_discarded (putRaw db k id (.corrupt p)).1 k id p (by rw [hput, Spec.set_same])
  refine ⟨hc.1, hc.2.1, ?_⟩
  intro k' id' hne
  rw [hc.2.2 k' id' hne, hput]; exact Spec.set_ne _ _ hne

example : (load (putRaw Db.empty .rpm "fanA" (.corrupt none)).1 .rpm "fanA").2 = .ok none :=
  (C14_corrupt_discarded_putRaw Db.empty .rpm "fanA" none (by decide)).1

/-- If the process is killed at any moment during `save k id arg`, a later `load k id` returns
    either what it would have returned before, or the new value; every other slot is unchanged. -/
theorem C14_crash_atomic (db db' : Db) (k : Kind) (id : String) (arg : k.Val)
    (h : CrashDuringSave db k id arg db') :
    ((load db' k id).2 = (load db k id).2 ∨
      ∃ v, encode k arg = .ok v ∧ (load db' k id).2 = .ok v) ∧
    (∀ k' id', (k', id') ≠ (k, id) →
      abs db' k' id' = abs db k' id' ∧ (load db' k' id').2 = (load db k' id').2) := by
  have hcases : db' = db ∨
      ∃ v, encode k arg = .ok v ∧ abs db' = (abs db).set k id (some (.valid v)) :=
    h.elim .inl fun e => e ▸ save_cases db k id arg
  rcases hcases with rfl | ⟨v, hv, ha⟩
  · exact ⟨.inl rfl, fun _ _ _ => ⟨rfl, rfl⟩⟩
  · refine ⟨Or.inr ⟨v, hv, by rw [load_out, ha, Spec.set_same]; rfl⟩, fun k' id' hne => ?_⟩
    have : abs db' k' id' = abs db k' id' := by rw [ha]; exact Spec.set_ne _ _ hne
    exact ⟨this, load_congr this⟩

/-- After a crash during a save, repeating the save gives exactly the state (and result) of an
    uninterrupted save – whichever of the two possible states the crash left behind. -/
theorem C14_crash_then_retry (db db' : Db) (k : Kind) (id : String) (arg : k.Val)
    (h : CrashDuringSave db k id arg db') : save db' k id arg = save db k id arg := by
  rcases h with rfl | rfl
  · rfl
  · exact save_save db k id arg

-- non-vacuity: both outcomes of the relation exist
example : CrashDuringSave Db.empty .pwmMap "fanA" (some [(1, 2)]) Db.empty := Or.inl rfl
example : CrashDuringSave Db.empty .pwmMap "fanA" (some [(1, 2)])
    (save Db.empty .pwmMap "fanA" (some [(1, 2)])).1 := Or.inr rfl

/-- `SaveFanPwmData` with a NaN or ±Inf value anywhere in the map returns an error
    (`json.Marshal` refuses) and stores nothing – the previous entry, if any, stays. -/
theorem C14_save_nonfinite_rejected (db : Db) (id : String) (m : List (Int × F64))
    (h : ∃ p ∈ m, p.2.isFinite = false) :
    saveRpm db id (some m) = (db, .err "marshal") := by
  obtain ⟨p, hp, hf⟩ := h
  have : allFinite m = false := List.all_eq_false.2 ⟨p, hp, by simp [hf]⟩
  simp [saveRpm, save, encode, this]

example (db : Db) : saveRpm db "fanA" (some [(1, F64.zero), (2, F64.nan)]) = (db, .err "marshal") :=
  C14_save_nonfinite_rejected db "fanA" _ ⟨(2, F64.nan), by simp, rfl⟩

example (db : Db) : saveRpm db "fanA" (some [(1, F64.inf true)]) = (db, .err "marshal") :=
  C14_save_nonfinite_rejected db "fanA" _ ⟨(1, F64.inf true), by simp, rfl⟩

end Fan2go

#print axioms Fan2go.C14_refinement
#print axioms Fan2go.C14_refinement_fresh
#print axioms Fan2go.C14_roundtrip
#print axioms Fan2go.C14_roundtrip_rpm
#print axioms Fan2go.C14_roundtrip_pwmMap
#print axioms Fan2go.C14_isolation
#print axioms Fan2go.C14_isolation_run
#print axioms Fan2go.C14_isolation_other_kind
#print axioms Fan2go.C14_load_total
#print axioms Fan2go.C14_missing
#print axioms Fan2go.C14_delete_idem
#print axioms Fan2go.C14_corrupt_discarded
#print axioms Fan2go.C14_corrupt_discarded_putRaw
#print axioms Fan2go.C14_crash_atomic
#print axioms Fan2go.C14_crash_then_retry
#print axioms Fan2go.C14_save_nonfinite_rejected
