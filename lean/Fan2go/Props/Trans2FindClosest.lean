import Fan2go.Generated.Trans2
import Fan2go.Props.Trans
import Fan2go.Props.GoSemLemmas
namespace Fan2go
open Go

theorem trans2_util_FindClosest (indef : Int) (target : Int) (arr : Array Int) :
    Generated2.util_FindClosest indef target arr = findClosest target arr := by
  unfold Generated2.util_FindClosest findClosest
  simp only [forIn, ForIn.forIn]
  by_cases h0 : arr.size = 0
  · have : idx arr 0 = .panic "index-out-of-range" := by simp [idx, h0]
    simp only [this, h0, ↓reduceIte, Res.panic_bind]
  · have hpos : 0 < arr.size := by omega
    have hlen : len arr - 1 = ((arr.size - 1 : Nat) : Int) := by unfold len; omega
    have e0 : idx arr 0 = .ok arr[0]! := idx_nat arr 0 hpos
    simp only [h0, ↓reduceIte, hlen, e0, idx_nat arr (arr.size - 1) (by omega), Res.ok_bind]
    by_cases h1 : target ≤ arr[0]!
    · simp only [h1, ↓reduceIte]
    · simp only [h1, ↓reduceIte]
      by_cases h2 : target ≥ arr[arr.size - 1]!
      · simp only [h2, ↓reduceIte]
      · simp only [h2, ↓reduceIte]
        -- the loop state is `(result, i, j, mid)`: the slot `do` keeps for an early `return`, then the `let mut`s the
        -- loop assigns, in the order they are declared; after the loop the method returns the value an early `return`
        -- has left, else `arr[mid]`
        refine loopFuel_rule (σ := Option Int × Int × Int × Int)
          (fun s => ∃ i j mid : Nat, s = (none, (i : Int), (j : Int), (mid : Int)) ∧ j ≤ arr.size ∧ mid < arr.size)
          (fun s => (s.2.2.1 - s.2.1).toNat)
          (fun s => findClosestLoop arr target s.2.1.toNat s.2.2.1.toNat s.2.2.2.toNat)
          (fun v r => ∃ mid : Nat, r.2.2.2 = mid ∧ mid < arr.size ∧
            v = match r.1 with | some x => x | none => arr[mid]!)
          ?step ⟨0, arr.size, 0, rfl, Nat.le_refl _, hpos⟩ (by simp [len]) ?post
        case step =>
          rintro _ ⟨i, j, mid, rfl, hj, hm⟩
          simp only [Int.toNat_natCast, Int.ofNat_lt]
          rw [findClosestLoop]
          by_cases hij : i < j
          · have hmid : (i + j) / 2 < arr.size := by omega
            simp only [hij, not_true_eq_false, ↓reduceIte, div2, idx_nat arr _ hmid, Res.ok_bind,
              trans_util_getClosest, gt_iff_lt, Int.natCast_pos, Int.ofNat_lt]
            generalize hmdef : (i + j) / 2 = m at hmid ⊢
            -- with the two guarded reads of a neighbour as conjunctions, code and model are the same tree of `if`s
            simp only [Res.guarded (0 < m) _ _ (fun x => decide (x < target)) (fun h => idx_pred arr m h (by omega)),
              Res.guarded (m < arr.size - 1) _ _ (fun x => decide (target < x)) (fun h => idx_succ arr m (by omega)),
              Res.ok_bind, Bool.and_eq_true, decide_eq_true_eq]
            by_cases h1 : arr[m]! = target
            · simp only [h1, ↓reduceIte, Res.pure_def]
              exact ⟨_, rfl, hmid, h1.symm⟩
            · by_cases h2 : target < arr[m]!
              · by_cases h3 : 0 < m ∧ arr[m - 1]! < target
                · simp only [h1, h2, h3, and_self, ↓reduceIte, idx_pred arr m h3.1 (by omega), Res.ok_bind, Res.pure_def]
                  exact ⟨_, rfl, hmid, trivial⟩
                · simp only [h1, h2, h3, ↓reduceIte, Res.pure_def, Int.toNat_natCast]
                  exact ⟨⟨_, _, _, rfl, by omega, hmid⟩, by omega, trivial⟩
              · by_cases h3 : m < arr.size - 1 ∧ target < arr[m + 1]!
                · simp only [h1, h2, h3, and_self, ↓reduceIte, idx_succ arr m (by omega), Res.ok_bind, Res.pure_def]
                  exact ⟨_, rfl, hmid, trivial⟩
                · simp only [h1, h2, h3, ↓reduceIte, Res.pure_def, Int.toNat_natCast]
                  exact ⟨⟨_, _, _, rfl, hj, hmid⟩, by omega, by congr 1⟩
          · simp only [hij, not_false_eq_true, ↓reduceIte, Res.pure_def]
            exact ⟨_, rfl, hm, rfl⟩
        case post =>
          rintro ⟨o, i, j, m⟩ ⟨mid', hm', hlt, hv⟩
          rw [show findClosestLoop arr target 0 arr.size 0 = _ from hv]
          cases o with
          | some v => rfl
          | none => subst hm'; exact idx_nat arr mid' hlt
end Fan2go
#print axioms Fan2go.trans2_util_FindClosest
