/-
  How a `GoM` computation runs on a state, and with it the recipe of a tie
  `Generated3.X indef ops args s = <the model's function on s>`:
  `unfold Generated3.X` (with the generated callees that have no tie of their own, and the model's function), then
  `simp only [gom, <ties of the callees>, <facts about the device>]`, which runs the `do` block (what `gom` holds:
  Props/GoMAttr.lean). Then `cases` on the model data the code branches on (a Boolean of the configuration, an `Option`
  field, a result in `Res`), and each case closes by `simp [gom, h…]` or `rfl`. `gom` is named again after `cases`
  because `Go.deref (some _)`, an `if` and a `match` on a result become redexes only once a constructor stands in their
  place. Where a method is straight-line code the steps collapse into one `simp [gom, …]`.
  The equations of a record's fields stand in a namespace of its group: `T3A`/`B3` controller, `T3F` HwMonFan, `T3G`
  FileFan, `T3C` CmdFan, `T3L` sensors, curves and PID loop, `T3I` and `T3R` start-up, `T3P` permission check, `T3E`
  external command, `T3IO` file.go.
-/
import Fan2go.Model.GoSem
import Fan2go.Props.GoMAttr
namespace Fan2go
namespace GoM
variable {σ α β : Type}

@[gom] theorem run_bind (m : GoM σ α) (f : α → GoM σ β) (s : σ) :
    (m >>= f) s = match m s with
      | (.ok a, s') => f a s'
      | (.err e, s') => (.err e, s')
      | (.panic p, s') => (.panic p, s') := rfl
@[gom] theorem run_pure (a : α) (s : σ) : (pure a : GoM σ α) s = (.ok a, s) := rfl
@[gom] theorem run_ite (c : Prop) [Decidable c] (a b : GoM σ α) (s : σ) :
    (if c then a else b) s = if c then a s else b s := apply_ite (· s) c a b
@[gom] theorem run_liftRes (r : Res α) (s : σ) : (Go.liftRes r : GoM σ α) s = (r, s) := rfl
@[gom] theorem run_deref_some (a : α) (s : σ) : (Go.deref (some a) : GoM σ α) s = (.ok a, s) := rfl
@[gom] theorem run_deref_none (s : σ) : (Go.deref (none : Option α) : GoM σ α) s = (.panic "nil", s) := rfl

theorem forIn_single (a : α) (b : β) (f : α → β → GoM σ (ForInStep β)) (s : σ) :
    forIn #[a] b f s = match f a b s with
      | (.ok (.done b'), s') => (.ok b', s')
      | (.ok (.yield b'), s') => (.ok b', s')
      | (.err e, s') => (.err e, s')
      | (.panic p, s') => (.panic p, s') := by
  show forIn [a].toArray b f s = _
  rw [List.forIn_toArray, List.forIn_cons, run_bind]
  rcases f a b s with ⟨r, s'⟩
  cases r with
  | ok x => cases x <;> rfl
  | err e => rfl
  | panic p => rfl

end GoM
end Fan2go
