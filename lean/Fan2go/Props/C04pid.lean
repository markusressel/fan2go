/-
  C04 (PID part)  Constant curve value: the request of the DEFAULT PID algorithm settles
       (internal/util/pid.go `Loop`, internal/control_loop/pid.go `Cycle`,
        internal/controller/controller.go:454-472 in `calculateTargetPwm`;
        models: `pidLoop`, `pidCycle`, `rescale`, `clamp255`)

  The closed loop the controller wires, on the identity range (fan min 0, max 255, `rescale t 0 255 = t`):
      `pidClosed indef c (st, x) now = (st', rescale (clamp255 (pidCycle st c x now).2) 0 255)`
  i.e. the algorithm is called with the previous REQUEST `x` as `current`; `pidRun` iterates it over a
  sequence of curve values and clock readings, `pidRunC` with a constant curve value and tick.
  Gains: `F64.ofRat (3/10)`, `(1/50)`, `(1/200)` (the binary64 values of 0.3, 0.02, 0.005).
  All theorems are about the binary64 model (every rounding of every operation included) and hold for
  every `indef` (the implementation-defined `int(NaN/Inf/huge)`).

  RESULT (what is proved, for which tick periods)
  (1) `C04_pid_cycle_exact`, `C04_pid_round_exact` – ticks 50 ms..2 s, |integral| ≤ 2^21: one cycle equals
      the exact rational recurrence  x' = clampRound(x + p·e + i·(I + e·t) + d·(e − e_prev)/t)  up to
      2^-31 before rounding (integral: 2^-30); the integer request can differ from the exact one only
      if the exact value is within 2^-31 of a half-integer.                                  – PROVED
  (2) `C04_pid_no_windup` – every sequence of curve values, every sequence of ticks in 50 ms..2 s, from a
      fresh loop: all operands stay finite, |integral| ≤ 20000 for ever, and an integral beyond
      ±19200 forces the request to the matching end of the scale.                            – PROVED
  (3) `C04_pid_monotone_far` – ticks 50 ms..2 s: error ≥ 175 and integral ≥ 0 ⇒ the request rises
      (mirror: falls); general form `C04_pid_move_toward`.                                   – PROVED
  (4) `C04_pid_rest_forever` – ticks 50 ms..2 s: request = c and |i·I| (plus the derivative kick of the
      last move) below 1/2 ⇒ request = c for ever, integral frozen.
      `C04_pid_settles_from_Q` – ticks 50 ms..2 s: from the quasi-static region `Qpos`/`Qneg`
      (1 ≤ |e|, |e|·t ≤ 12.5, last move 0 or 1 toward c, PI signal inside its band) the request moves in
      single steps monotonically to c, reaches it within `n` cycles (`PhiN ≤ n·eta`) and rests. – PROVED
  (5) `C04_pid_settles_fresh_200ms` – tick 200 ms (the daemon default), fresh loop, EVERY curve value and
      EVERY first request in 0..255: the request equals c at every cycle from the 6820-th on.
      (validated simulation: 20 cycles of an integer model with branching at rounding ties, kernel
      evaluated, then the Q-region argument `ATraj.settle_of_done`).                        – PROVED
  (6) `C04_pid_suspend_windup` – one clock step of 3 h with error 100, then ticks 50 ms..2 s: the next
      1001 requests are all 255 whatever the curve value – why the property restricts ticks.  – PROVED
  NOT proved: settling from an ARBITRARY state of the invariant region (history independence) and a
  settling bound for tick periods other than 200 ms from outside `Qpos`/`Qneg`.
-/
import Fan2go.Proofs.PidSimAll
import Fan2go.Proofs.PidWindup
namespace Fan2go
open F64

/-- One cycle on finite operands. `clampRound s = int(math.Round(Coerce(s, 0, 255)))`. -/
theorem C04_pid_cycle_exact (indef : Int) (st : PidSt) (c x now last ep : Int) (I : ℚ)
    (hp : st.p = ofRat (3 / 10)) (hi : st.i = ofRat (1 / 50)) (hd : st.d = ofRat (1 / 200))
    (he : st.error = fin (ep : ℚ)) (hI : st.integral = fin I) (hl : st.lastTime = some last)
    (hc0 : 0 ≤ c) (hc1 : c ≤ 255) (hx0 : 0 ≤ x) (hx1 : x ≤ 255) (hep : |ep| ≤ 255)
    (hIb : |I| ≤ 2 ^ 21) (ht0 : 50000000 ≤ now - last) (ht1 : now - last ≤ 2000000000) :
    ∃ t J S : ℚ,
      secondsOfNanos (now - last) = fin t ∧ |t - ((now - last : Int) : ℚ) / 1000000000| ≤ 1 / 2 ^ 50 ∧
      pidCycle indef st c x now =
        ({ st with integral := fin J, error := fin ((c - x : Int) : ℚ), lastTime := some now },
          clampRound S) ∧
      |J - (I + ((c - x : Int) : ℚ) * t)| ≤ 1 / 2 ^ 30 ∧
      |S - ((x : ℚ) + (3 / 10 * ((c - x : Int) : ℚ) + 1 / 50 * (I + ((c - x : Int) : ℚ) * t)
              + 1 / 200 * ((((c - x : Int) : ℚ) - (ep : ℚ)) / t)))| ≤ 1 / 2 ^ 31 := by
  obtain ⟨hsec, htick, hclose⟩ := secondsOfNanos_tick ht0 ht1
  have hcyc := CycOk.of_tick hc0 hc1 hx0 hx1 hep hIb (by linarith [htick.t0]) htick.t1
  exact ⟨_, _, _, hsec, hclose,
    pidCycle_fin indef hp hi hd he hI hl hsec hc0 hc1 hcyc, pidJ_close hcyc, pidS_close hcyc⟩

/-- … hence the request is the rounding of the EXACT value unless that value is within `2^-31` of a
    half-integer. -/
theorem C04_pid_round_exact (indef : Int) (st : PidSt) (c x now last ep : Int) (I : ℚ)
    (hp : st.p = ofRat (3 / 10)) (hi : st.i = ofRat (1 / 50)) (hd : st.d = ofRat (1 / 200))
    (he : st.error = fin (ep : ℚ)) (hI : st.integral = fin I) (hl : st.lastTime = some last)
    (hc0 : 0 ≤ c) (hc1 : c ≤ 255) (hx0 : 0 ≤ x) (hx1 : x ≤ 255) (hep : |ep| ≤ 255)
    (hIb : |I| ≤ 2 ^ 21) (ht0 : 50000000 ≤ now - last) (ht1 : now - last ≤ 2000000000)
    (hfar : ∀ k : Int, 1 / 2 ^ 31 <
      |(x : ℚ) + uExact ((c - x : Int) : ℚ) ep I (secOf (now - last)) - ((k : ℚ) + 1 / 2)|) :
    (pidCycle indef st c x now).2
      = clampRound ((x : ℚ) + uExact ((c - x : Int) : ℚ) ep I (secOf (now - last))) := by
  obtain ⟨hsec, htick, _⟩ := secondsOfNanos_tick ht0 ht1
  have hcyc := CycOk.of_tick hc0 hc1 hx0 hx1 hep hIb (by linarith [htick.t0]) htick.t1
  rw [pidCycle_fin indef hp hi hd he hI hl hsec hc0 hc1 hcyc]
  exact clampRound_stable (pidS_close hcyc) hfar

example (indef : Int) :
    ∃ t S : ℚ, secondsOfNanos 200000000 = fin t ∧
      (pidCycle indef (PidSt.mk (ofRat (3 / 10)) (ofRat (1 / 50)) (ofRat (1 / 200))
          (fin ((10 : Int) : ℚ)) (fin 0) (some 0)) 100 90 200000000).2
        = clampRound S ∧
      |S - ((90 : ℚ) + (3 / 10 * 10 + 1 / 50 * (0 + 10 * t) + 1 / 200 * ((10 - 10) / t)))| ≤ 1 / 2 ^ 31 := by
  obtain ⟨t, J, S, h1, _, h3, _, h5⟩ := C04_pid_cycle_exact indef
    (PidSt.mk (ofRat (3 / 10)) (ofRat (1 / 50)) (ofRat (1 / 200)) (fin ((10 : Int) : ℚ)) (fin 0)
      (some 0)) 100 90 200000000 0 10 0
    rfl rfl rfl rfl rfl rfl (by norm_num) (by norm_num) (by norm_num) (by norm_num) (by norm_num)
    (by norm_num) (by norm_num) (by norm_num)
  refine ⟨t, S, by simpa using h1, by rw [h3], ?_⟩
  norm_num at h5 ⊢
  exact h5

/-- From a fresh loop (cycle 0 = first call, curve value `c0`, first request `x0`), for EVERY sequence
    of curve values and EVERY sequence of tick periods in 50 ms..2 s: at every cycle the memory is
    finite with the default gains, the request is in 0..255, the integral is bounded by 20000, and an
    integral beyond ±19200 comes with a request at the matching end of the scale (so that the error can
    only drive it back). -/
theorem C04_pid_no_windup (indef : Int) (c0 x0 : Int) (cs : Nat → Int) (nows : Nat → Int)
    (hc0 : 0 ≤ c0 ∧ c0 ≤ 255) (hx0 : 0 ≤ x0 ∧ x0 ≤ 255) (hcs : ∀ k, 0 ≤ cs k ∧ cs k ≤ 255)
    (hticks : ∀ k, 50000000 ≤ nows (k + 1) - nows k ∧ nows (k + 1) - nows k ≤ 2000000000) (k : Nat) :
    let s := pidRun indef cs nows (pidClosed indef c0 (pidFresh, x0) (nows 0)) k
    s.1.integral = fin (intOf s.1) ∧ s.1.error = fin ((errOf s.1 : Int) : ℚ) ∧
    s.1.lastTime = some (nows k) ∧ 0 ≤ s.2 ∧ s.2 ≤ 255 ∧ |intOf s.1| ≤ 20000 ∧
    (19200 ≤ intOf s.1 → s.2 = 255) ∧ (intOf s.1 ≤ -19200 → s.2 = 0) := by
  intro s
  have r0 := (pidFresh_first indef (now := nows 0) hc0.1 hc0.2 hx0.1 hx0.2).1
  have r := pidRun_runSt indef cs nows _ r0 hcs hticks k
  exact ⟨r.good.integral, r.good.error, r.good.lastTime, r.x0, r.x1, r.inv.1, r.inv.2.1, r.inv.2.2⟩

example (indef : Int) (k : Nat) :
    |intOf (pidRun indef (fun j => if j % 2 = 0 then 255 else 0) (fun j => 1000000000 * j)
      (pidClosed indef 0 (pidFresh, 128) 0) k).1| ≤ 20000 :=
  (C04_pid_no_windup indef 0 128 _ (fun j => 1000000000 * (j : Int)) (by norm_num) (by norm_num)
    (fun j => by split_ifs <;> norm_num)
    (fun j => by constructor <;> push_cast <;> linarith) k).2.2.2.2.2.1

/-- General form: if the exact output is at least `n − 1/2 + 2^-30` the request rises by at least `n`
    (and symmetrically falls). -/
theorem C04_pid_move_toward (indef : Int) {s : PidSt × Int} {last c now : Int} (r : RunSt s last)
    (hc0 : 0 ≤ c) (hc1 : c ≤ 255) (h0 : 50000000 ≤ now - last) (h1 : now - last ≤ 2000000000)
    (n : Int) (hn : 1 ≤ n) :
    (s.2 + n ≤ 255 → (n : ℚ) - 1 / 2 + 1 / 2 ^ 30
        ≤ uExact ((c - s.2 : Int) : ℚ) (errOf s.1) (intOf s.1) (secOf (now - last)) →
      s.2 + n ≤ (pidClosed indef c s now).2) ∧
    (0 ≤ s.2 - n → uExact ((c - s.2 : Int) : ℚ) (errOf s.1) (intOf s.1) (secOf (now - last))
        ≤ -((n : ℚ) - 1 / 2 + 1 / 2 ^ 30) →
      (pidClosed indef c s now).2 ≤ s.2 - n) := by
  obtain ⟨_, _, _, ha⟩ := r.step indef hc0 hc1 h0 h1
  exact ⟨ha.move_up n hn, ha.move_dn n hn⟩

/-- Far below the curve value (error ≥ 175) with a non-negative integral the request rises, whatever
    the previous error was; far above (error ≤ −175) with a non-positive integral it falls. -/
theorem C04_pid_monotone_far (indef : Int) {s : PidSt × Int} {last c now : Int} (r : RunSt s last)
    (hc0 : 0 ≤ c) (hc1 : c ≤ 255) (h0 : 50000000 ≤ now - last) (h1 : now - last ≤ 2000000000) :
    (175 ≤ c - s.2 → 0 ≤ intOf s.1 → s.2 < (pidClosed indef c s now).2) ∧
    (c - s.2 ≤ -175 → intOf s.1 ≤ 0 → (pidClosed indef c s now).2 < s.2) := by
  obtain ⟨_, _, ht, ha⟩ := r.step indef hc0 hc1 h0 h1
  exact ⟨ha.far_up ht, ha.far_dn ht⟩

example (indef : Int) :
    (10 : Int) < (pidClosed indef 200 (pidClosed indef 200 (pidFresh, 10) 0) 200000000).2 := by
  obtain ⟨r, hx, hI, _⟩ := pidFresh_first indef (c := 200) (x := 10) (now := 0) (by norm_num)
    (by norm_num) (by norm_num) (by norm_num)
  have := (C04_pid_monotone_far indef (c := 200) (now := 200000000) r (by norm_num) (by norm_num)
    (by norm_num) (by norm_num)).1 (by rw [hx]; norm_num) (by rw [hI])
  rwa [hx] at this

/-- Rest: the request equals the curve value and the integral term (now: together with the
    derivative kick of the last move) is below 1/2 − 2^-29 in the directions in which the request
    could still move. Then the request is `c` for ever and the integral never changes. -/
theorem C04_pid_rest_forever (indef : Int) {c dt now0 : Int} {s0 : PidSt × Int} (r0 : RunSt s0 now0)
    (hc0 : 0 ≤ c) (hc1 : c ≤ 255) (h0 : 50000000 ≤ dt) (h1 : dt ≤ 2000000000) (k : Nat)
    (hx : (pidRunC indef c dt now0 s0 k).2 = c)
    (hnow : |1 / 50 * intOf (pidRunC indef c dt now0 s0 k).1
        + 1 / 200 * ((0 - (errOf (pidRunC indef c dt now0 s0 k).1 : ℚ)) / secOf dt)| ≤ 1 / 2 - 1 / 2 ^ 29)
    (hlater : |1 / 50 * intOf (pidRunC indef c dt now0 s0 k).1| ≤ 1 / 2 - 1 / 2 ^ 29) :
    ∀ m, k ≤ m → (pidRunC indef c dt now0 s0 m).2 = c ∧
      intOf (pidRunC indef c dt now0 s0 m).1 = intOf (pidRunC indef c dt now0 s0 k).1 := by
  have he : (1 : ℚ) / 2 - 1 / 2 ^ 29 = 1 / 2 - 2 * eps := by unfold eps; norm_num
  rw [he] at hnow hlater
  exact pidRunC_rest_forever indef r0 hc0 hc1 h0 h1 k (.of_abs hx hnow hlater)

/-- From the quasi-static region the request reaches `c` within `n` cycles and stays, where `n` is
    any number with `PhiN ≤ n · eta` (`eta t = t/50 − 2^-30`; `PhiN ≤ 0.32·|e| + 2` in the region when
    the request is not at the end of the scale). -/
theorem C04_pid_settles_from_Q (indef : Int) {c dt now0 : Int} {s0 : PidSt × Int} (r0 : RunSt s0 now0)
    (hc0 : 0 ≤ c) (hc1 : c ≤ 255) (h0 : 50000000 ≤ dt) (h1 : dt ≤ 2000000000) (k n : Nat)
    (hq : (Qpos c (secOf dt) (pidRunC indef c dt now0 s0 k).2 (intOf (pidRunC indef c dt now0 s0 k).1)
            (errOf (pidRunC indef c dt now0 s0 k).1) ∧
          PhiN c (secOf dt) (pidRunC indef c dt now0 s0 k).2 (intOf (pidRunC indef c dt now0 s0 k).1)
            ≤ n * eta (secOf dt)) ∨
        (Qneg c (secOf dt) (pidRunC indef c dt now0 s0 k).2 (intOf (pidRunC indef c dt now0 s0 k).1)
            (errOf (pidRunC indef c dt now0 s0 k).1) ∧
          PhiN (255 - c) (secOf dt) (255 - (pidRunC indef c dt now0 s0 k).2)
            (-intOf (pidRunC indef c dt now0 s0 k).1) ≤ n * eta (secOf dt))) :
    ∀ m, k + n ≤ m → (pidRunC indef c dt now0 s0 m).2 = c := by
  have T := pidRunC_traj indef r0 hc0 hc1 h0 h1
  obtain ⟨j, hj, hr⟩ : ∃ j, j ≤ n ∧ ARest c (secOf dt) (pidRunC indef c dt now0 s0 (k + j)).2
      (intOf (pidRunC indef c dt now0 s0 (k + j)).1) (errOf (pidRunC indef c dt now0 s0 (k + j)).1) := by
    rcases hq with ⟨h, hp⟩ | ⟨h, hp⟩
    · exact T.settle_Qpos n k h hp
    · exact T.settle_Qneg n k h hp
  intro m hm
  exact (pidRunC_rest_forever indef r0 hc0 hc1 h0 h1 (k + j) hr m (by omega)).1

/-- non-vacuity: a fresh loop one step below the curve value, 1 s ticks – in `Qpos` right after the
    first call; the request is 101 from cycle 100 on. -/
example (indef : Int) (m : Nat) (hm : 100 ≤ m) :
    (pidRunC indef 101 1000000000 0 (pidClosed indef 101 (pidFresh, 100) 0) m).2 = 101 := by
  obtain ⟨r, hx, hI, hE⟩ := pidFresh_first indef (c := 101) (x := 100) (now := 0) (by norm_num)
    (by norm_num) (by norm_num) (by norm_num)
  have ht : secOf 1000000000 = 1 := by
    unfold secOf; rw [show secondsOfNanos 1000000000 = fin 1 by decide +kernel]
  have h0 : pidRunC indef 101 1000000000 0 (pidClosed indef 101 (pidFresh, 100) 0) 0
      = pidClosed indef 101 (pidFresh, 100) 0 := rfl
  refine C04_pid_settles_from_Q indef r (by norm_num) (by norm_num) (by norm_num) (by norm_num) 0 100
    (Or.inl ?_) m (by omega)
  rw [h0, hx, hI, hE, ht]
  refine ⟨⟨by norm_num, by norm_num, Or.inl rfl, fun _ => ?_, ?_⟩, ?_⟩
  · norm_num [Gq, dl]
  · norm_num [Gq, dl]
  · norm_num [PhiN, eta, Gq, eps]

/-- **Default gains, default tick 200 ms, identity range, fresh loop.** For every curve value `c` and
    every first request `x0` in 0..255 the closed loop requests exactly `c` at every cycle from the
    6820-th on (cycle 0 = the first call, which only records the clock). 6820 = 20 (validated
    simulation up to the quasi-static region) + 6800 (bound from the potential; the simulation suggests
    ≈ 270). -/
theorem C04_pid_settles_fresh_200ms (indef : Int) (c x0 now0 : Int) (hc0 : 0 ≤ c) (hc1 : c ≤ 255)
    (hx0 : 0 ≤ x0) (hx1 : x0 ≤ 255) (n : Nat) (hn : 6820 ≤ n) :
    (pidRunC indef c 200000000 now0 (pidClosed indef c (pidFresh, x0) now0) n).2 = c := by
  obtain ⟨r0, hx, hI, hE⟩ := pidFresh_first indef (now := now0) hc0 hc1 hx0 hx1
  have T := pidRunC_traj indef r0 hc0 hc1 (dt := 200000000) (by norm_num) (by norm_num)
  have h0 : pidRunC indef c 200000000 now0 (pidClosed indef c (pidFresh, x0) now0) 0
      = pidClosed indef c (pidFresh, x0) now0 := rfl
  exact T.settle_fresh .of_200ms
    (by show intOf (pidRunC indef c 200000000 now0 _ 0).1 = 0; rw [h0, hI])
    (by show errOf (pidRunC indef c 200000000 now0 _ 0).1 = c - (pidRunC indef c 200000000 now0 _ 0).2
        rw [h0, hE, hx]) n hn

example (indef : Int) :
    (pidRunC indef 200 200000000 0 (pidClosed indef 200 (pidFresh, 0) 0) 10000).2 = 200 :=
  C04_pid_settles_fresh_200ms indef 200 0 0 (by norm_num) (by norm_num) (by norm_num) (by norm_num)
    10000 (by norm_num)

/-- Error 100 (`c = request + 100`), integral at most 1000 in magnitude; then ONE clock step of three
    hours (suspend/resume) followed by ordinary ticks of 50 ms..2 s: the integral jumps to about
    `100 · 10800`, and every one of the next 1001 requests is 255 whatever `c ∈ 100..255` is. -/
theorem C04_pid_suspend_windup (indef c : Int) (nows : Nat → Int) (s0 : PidSt × Int)
    (r0 : RunSt0 s0 (nows 0)) (hI0 : |intOf s0.1| ≤ 1000) (he : c - s0.2 = 100) (hc1 : c ≤ 255)
    (hT : nows 1 - nows 0 = 10800000000000)
    (hticks : ∀ k, 1 ≤ k →
      50000000 ≤ nows (k + 1) - nows k ∧ nows (k + 1) - nows k ≤ 2000000000) :
    ∀ k, 1 ≤ k → k ≤ 1001 → (pidRun indef (fun _ => c) nows s0 k).2 = 255 := by
  intro k hk1 hk2
  obtain ⟨j, rfl⟩ : ∃ j, k = j + 1 := ⟨k - 1, by omega⟩
  exact (windup_run indef c nows s0 r0 hI0 he hc1 hT hticks j (by omega)).2.1

/-- non-vacuity: fresh loop at request 50, curve value 150, suspended for 3 h right after the first
    call, then 200 ms ticks: request 255 (not 150) at cycles 1..1001. -/
example (indef : Int) (k : Nat) (h1 : 1 ≤ k) (h2 : k ≤ 1001) :
    (pidRun indef (fun _ => 150)
      (fun j => if j = 0 then 0 else 10800000000000 + 200000000 * ((j : Int) - 1))
      (pidClosed indef 150 (pidFresh, 50) 0) k).2 = 255 := by
  obtain ⟨r, hx, hI, _⟩ := pidFresh_first indef (c := 150) (x := 50) (now := 0) (by norm_num)
    (by norm_num) (by norm_num) (by norm_num)
  refine C04_pid_suspend_windup indef 150 _ _ (by simpa using r.toRunSt0) (by rw [hI]; norm_num)
    (by rw [hx]; norm_num) (by norm_num) (by norm_num) ?_ k h1 h2
  intro j hj
  have e1 : ¬ (j + 1 = 0) := by omega
  have e2 : ¬ (j = 0) := by omega
  simp only [e1, e2, if_false]
  constructor <;> push_cast <;> linarith

end Fan2go

#print axioms Fan2go.C04_pid_cycle_exact
#print axioms Fan2go.C04_pid_round_exact
#print axioms Fan2go.C04_pid_no_windup
#print axioms Fan2go.C04_pid_move_toward
#print axioms Fan2go.C04_pid_monotone_far
#print axioms Fan2go.C04_pid_rest_forever
#print axioms Fan2go.C04_pid_settles_from_Q
#print axioms Fan2go.C04_pid_settles_fresh_200ms
#print axioms Fan2go.C04_pid_suspend_windup
