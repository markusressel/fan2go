import Fan2go.Props.Trans3CmdFanOps
import Fan2go.Props.Trans3A
namespace Fan2go
open F64
set_option linter.unusedVariables false  -- `h : w.fan.kind = .cmd` is part of every statement, used or not

namespace T3C

variable (xp xr : F64) (v : Int) (w : World)

theorem c_exec (exe : String) (args : Array String) (t : Int) :
    (cmdFanOps xp xr v).safeCmdExecution exe args t w = cmdExec v exe args w := rfl
theorem c_parse (s : String) (b : Int) :
    (cmdFanOps xp xr v).parseFloat s b w =
      (.ok (if s = "pwm-output" then (xp, none) else if s = "rpm-output" then (xr, none)
          else (F64.ofInt 0, some "parse")), w) := rfl
theorem c_replace (s old new : String) :
    (cmdFanOps xp xr v).replaceAll s old new w = (.ok (if s = old then new else s), w) := rfl
theorem c_itoa (x : Int) : (cmdFanOps xp xr v).itoa x w = (.ok (if x = v then "#val" else "#other"), w) := rfl
theorem c_cfgRpm : (cmdFanOps xp xr v).get_Config_Cmd_GetRpm w = (.ok (if w.dev.hasRpm then some () else none), w) := rfl
theorem c_cfgPwm : (cmdFanOps xp xr v).get_Config_Cmd_GetPwm w = (.ok (some ()), w) := rfl
theorem c_rpmExec : (cmdFanOps xp xr v).get_rpmConf_Exec w = (.ok "getrpm", w) := rfl
theorem c_rpmArgs : (cmdFanOps xp xr v).get_rpmConf_Args w = (.ok #[], w) := rfl
theorem c_pwmExec : (cmdFanOps xp xr v).get_pwmConf_Exec w = (.ok "getpwm", w) := rfl
theorem c_pwmArgs : (cmdFanOps xp xr v).get_pwmConf_Args w = (.ok #[], w) := rfl
theorem c_setExec : (cmdFanOps xp xr v).get_setConf_Exec w = (.ok "setpwm", w) := rfl
theorem c_setArgs : (cmdFanOps xp xr v).get_setConf_Args w = (.ok #["%pwm%"], w) := rfl
theorem c_neverStop : (cmdFanOps xp xr v).get_Config_NeverStop w = (.ok w.fan.neverStop, w) := rfl
theorem c_getPwm : (cmdFanOps xp xr v).get_Pwm w = (.ok w.dev.pwm, w) := rfl
theorem c_setPwm (x : Int) : (cmdFanOps xp xr v).set_Pwm x w = (.ok (), w) := rfl
theorem c_getRpm : (cmdFanOps xp xr v).get_Rpm w = (.ok w.fan.rpmInt, w) := rfl
theorem c_setRpm (x : Int) :
    (cmdFanOps xp xr v).set_Rpm x w = (.ok (), { w with fan := { w.fan with rpmInt := x } }) := rfl

attribute [gom] c_exec c_parse c_replace c_itoa c_cfgRpm c_cfgPwm c_rpmExec c_rpmArgs c_pwmExec c_pwmArgs
  c_setExec c_setArgs c_neverStop c_getPwm c_setPwm c_getRpm c_setRpm

theorem exec_getpwm (args : Array String) :
    cmdExec v "getpwm" args w = (.ok (cmdReadTok w.dev.pwmRead "pwm-output"), w) := by
  simp [cmdExec]
theorem exec_getrpm (args : Array String) :
    cmdExec v "getrpm" args w = (.ok (cmdReadTok w.dev.rpmRead "rpm-output"), w) := by
  simp [cmdExec]
theorem exec_setpwm :
    cmdExec v "setpwm" #["#val"] w = (.ok ("", t3ErrOf (fanSetPwm w.dev v).2), { w with dev := (fanSetPwm w.dev v).1 }) := by
  simp [cmdExec]

end T3C

open T3C

variable (indef : Int) (curve : Res Int) (now : Int) (w : World) (xp xr : F64) (v0 : Int)

theorem trans3_CmdFan_Supports (h : w.fan.kind = .cmd) (k : Int) :
    Generated3.CmdFan_Supports indef (cmdFanOps xp xr v0) k w = (modelOps indef curve now).fan_Supports k w := by
  unfold Generated3.CmdFan_Supports
  rcases (by omega : k = 0 ∨ k = 1 ∨ k = 2 ∨ (k ≠ 0 ∧ k ≠ 1 ∧ k ≠ 2)) with rfl | rfl | rfl | ⟨h0, h1, h2⟩
  · simp [gom, supports, h]
  · cases hh : w.dev.hasRpm <;> simp [gom, supports, hh]
  · simp [gom, supports, h]
  · simp [gom, h0, h1, h2]

/-- the device prints `xp`; the model's register holds what Go's `int(xp)` makes of it -/
theorem trans3_CmdFan_GetPwm (h : w.fan.kind = .cmd) (hp : w.dev.pwm = F64.toInt indef xp) :
    Generated3.CmdFan_GetPwm indef (cmdFanOps xp xr v0) w = (modelOps indef curve now).fan_GetPwm w := by
  unfold Generated3.CmdFan_GetPwm
  simp only [gom, exec_getpwm]
  unfold fanGetPwm
  cases w.dev.pwmRead <;> simp [gom, cmdReadTok, goRead, hp]

/-- the record is built for the `v` that is written: `itoa` answers `#val` for that number only (head of
    Props/Trans3CmdFanOps.lean) -/
theorem trans3_CmdFan_SetPwm (h : w.fan.kind = .cmd) (v : Int) :
    Generated3.CmdFan_SetPwm indef (cmdFanOps xp xr v) v w = (modelOps indef curve now).fan_SetPwm v w := by
  unfold Generated3.CmdFan_SetPwm
  simp only [gom, GoM.forIn_single]
  simp only [if_true, List.push_toArray, List.nil_append, exec_setpwm]
  cases t3ErrOf (fanSetPwm w.dev v).2 <;> simp [Go.deref]

theorem trans3_CmdFan_GetRpm (h : w.fan.kind = .cmd) (hr : w.dev.rpm = F64.toInt indef xr) :
    Generated3.CmdFan_GetRpm indef (cmdFanOps xp xr v0) w = (modelOps indef curve now).fan_GetRpm w := by
  unfold Generated3.CmdFan_GetRpm
  have hs : Generated3.CmdFan_Supports indef (cmdFanOps xp xr v0) 1 w = (.ok w.dev.hasRpm, w) := by
    rw [trans3_CmdFan_Supports indef curve now w xp xr v0 h 1]
    simp [gom, supports]
  simp only [gom, hs]
  unfold modelGetRpm fanGetRpm
  cases w.dev.hasRpm
  · simp [gom, h, goRead]
  · simp only [gom, exec_getrpm]
    cases w.dev.rpmRead <;> simp [gom, cmdReadTok, goRead, hr, h]

theorem trans3_CmdFan_GetMinPwm (h : w.fan.kind = .cmd) :
    Generated3.CmdFan_GetMinPwm indef (cmdFanOps xp xr v0) w = (modelOps indef curve now).fan_GetMinPwm w := by
  unfold Generated3.CmdFan_GetMinPwm
  simp [gom, FanSt.getMin, h]

theorem trans3_CmdFan_GetMaxPwm (h : w.fan.kind = .cmd) :
    Generated3.CmdFan_GetMaxPwm indef (cmdFanOps xp xr v0) w = (modelOps indef curve now).fan_GetMaxPwm w := by
  unfold Generated3.CmdFan_GetMaxPwm
  simp [gom, FanSt.getMax, h]

theorem trans3_CmdFan_GetStartPwm (h : w.fan.kind = .cmd) :
    Generated3.CmdFan_GetStartPwm indef (cmdFanOps xp xr v0) w = (.ok w.fan.getStart, w) := by
  unfold Generated3.CmdFan_GetStartPwm
  simp [gom, FanSt.getStart, h]

theorem trans3_CmdFan_GetRpmAvg (h : w.fan.kind = .cmd) :
    Generated3.CmdFan_GetRpmAvg indef (cmdFanOps xp xr v0) w = (modelOps indef curve now).fan_GetRpmAvg w := by
  unfold Generated3.CmdFan_GetRpmAvg
  simp only [gom]
  simp [FanSt.getRpmAvg, h]

theorem trans3_CmdFan_SetRpmAvg (h : w.fan.kind = .cmd) (x : F64) :
    Generated3.CmdFan_SetRpmAvg indef (cmdFanOps xp xr v0) x w = (modelOps indef curve now).fan_SetRpmAvg x w := by
  unfold Generated3.CmdFan_SetRpmAvg
  simp only [gom]
  simp [FanSt.setRpmAvg, h]

theorem trans3_CmdFan_ShouldNeverStop (h : w.fan.kind = .cmd) :
    Generated3.CmdFan_ShouldNeverStop indef (cmdFanOps xp xr v0) w = (modelOps indef curve now).fan_ShouldNeverStop w := by
  unfold Generated3.CmdFan_ShouldNeverStop
  simp only [gom]

theorem trans3_CmdFan_SetPwmEnabled (h : w.fan.kind = .cmd) (v : Int) :
    Generated3.CmdFan_SetPwmEnabled indef (cmdFanOps xp xr v0) v w = (modelOps indef curve now).fan_SetPwmEnabled v w := by
  unfold Generated3.CmdFan_SetPwmEnabled
  simp [gom, setPwmEnabled, h, t3ErrOf]

theorem trans3_CmdFan_UpdateFanRpmCurveValue (h : w.fan.kind = .cmd) (pwm : Int) (rpm : F64) :
    Generated3.CmdFan_UpdateFanRpmCurveValue indef (cmdFanOps xp xr v0) pwm rpm w
      = (modelOps indef curve now).fan_UpdateFanRpmCurveValue pwm rpm w := by
  unfold Generated3.CmdFan_UpdateFanRpmCurveValue
  simp [gom, modelUpdateCurveValue, h]

theorem trans3_CmdFan_limits_fixed (h : w.fan.kind = .cmd) (pwm : Int) (force : Bool) :
    Generated3.CmdFan_SetMinPwm indef (cmdFanOps xp xr v0) pwm force w = (.ok (), { w with fan := w.fan.setMin pwm force })
    ∧ Generated3.CmdFan_SetStartPwm indef (cmdFanOps xp xr v0) pwm force w = (.ok (), { w with fan := w.fan.setStart pwm force })
    ∧ Generated3.CmdFan_SetMaxPwm indef (cmdFanOps xp xr v0) pwm force w = (.ok (), { w with fan := w.fan.setMax pwm force }) := by
  unfold Generated3.CmdFan_SetMinPwm Generated3.CmdFan_SetStartPwm Generated3.CmdFan_SetMaxPwm
  simp [gom, FanSt.setMin, FanSt.setStart, FanSt.setMax, h]

theorem trans3_CmdFan_AttachFanRpmCurveData (h : w.fan.kind = .cmd) (data : Option (List (Int × F64))) :
    Generated3.CmdFan_AttachFanRpmCurveData indef (cmdFanOps xp xr v0) data w
      = (.ok (t3ErrOf (w.fan.attach indef data).2), { w with fan := (w.fan.attach indef data).1 }) := by
  unfold Generated3.CmdFan_AttachFanRpmCurveData
  simp [gom, FanSt.attach, h, t3ErrOf]

theorem trans3_CmdFan_GetPwmEnabled_IsPwmAuto (h : w.fan.kind = .cmd) :
    Generated3.CmdFan_GetPwmEnabled indef (cmdFanOps xp xr v0) w = (.ok ((fanGetPwmEnabled w.fan w.dev).1, none), w)
    ∧ Generated3.CmdFan_IsPwmAuto indef (cmdFanOps xp xr v0) w = (.ok (true, none), w) := by
  unfold Generated3.CmdFan_GetPwmEnabled Generated3.CmdFan_IsPwmAuto
  simp [gom, fanGetPwmEnabled, h]

end Fan2go
#print axioms Fan2go.trans3_CmdFan_Supports
#print axioms Fan2go.trans3_CmdFan_GetPwm
#print axioms Fan2go.trans3_CmdFan_SetPwm
#print axioms Fan2go.trans3_CmdFan_GetRpm
#print axioms Fan2go.trans3_CmdFan_GetMinPwm
#print axioms Fan2go.trans3_CmdFan_GetMaxPwm
#print axioms Fan2go.trans3_CmdFan_GetStartPwm
#print axioms Fan2go.trans3_CmdFan_GetRpmAvg
#print axioms Fan2go.trans3_CmdFan_SetRpmAvg
#print axioms Fan2go.trans3_CmdFan_ShouldNeverStop
#print axioms Fan2go.trans3_CmdFan_SetPwmEnabled
#print axioms Fan2go.trans3_CmdFan_UpdateFanRpmCurveValue
#print axioms Fan2go.trans3_CmdFan_limits_fixed
#print axioms Fan2go.trans3_CmdFan_AttachFanRpmCurveData
#print axioms Fan2go.trans3_CmdFan_GetPwmEnabled_IsPwmAuto
