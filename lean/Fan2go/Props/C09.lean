/-
  C09 — A failing sensor or fan read/write never crashes the daemon.

  "A failed or garbage sensor read, RPM read, PWM read or PWM write at any control cycle – for any
  fan backend, sensor backend and curve type – never terminates fan2go abruptly. fan2go either keeps
  regulating with the last good data, or it stops regulating the affected fan after restoring it to
  its original control mode or full speed."

  How the quantifier is covered. In the models every place where the Go code can panic is an explicit
  `Res.panic site`, and every fault is a VALUE: of the device fields (`Dev.pwmRead`, `pwmWrite`,
  `modeRead`, `modeWrite`, `rpmRead`, `hasMode`, `hasRpm`, registers, `resp`), of the `SensorIo` of a
  poll, of the sensor table a curve sees (`SensorView.value = .err _`, any `avg`). The theorems below
  quantify universally over all of these, over all fan kinds (`FanSt.kind`), all sensor kinds, all
  `indef : Int` (Go's `int(NaN)`), all control loops (`LoopSt.cycle` is never unfolded) and over
  event lists of any length in which `.env d` replaces the WHOLE device state between any two
  cycles/polls. "Every single fault and every pair, at every cycle index" is a special case.

  Objects: `updateFanSpeed`, `measureRpm`, `restorePwmEnabled` (Model/Controller.lean), `stepEv`,
  `runEvs`, `Inv`, `Restored` (Spec/Controller.lean), `updateSensor`, `sensorGetValue`
  (Model/Sensor.lean), `evalCurve`, `evalMembers` (Model/Curves.lean), `validateConfig`,
  `toCurveTable` (Model/Config.lean), `closedLoop` (Proofs/NoCrash.lean), `crashSites`
  (Generated/Facts.lean).

  The property holds for the tree in /repo (`calculateTargetPwm` returns a curve error; it does not
  escalate it with `ui.Fatal`). Residuals, stated where they arise:
  the restore guarantee has the hypotheses of C03 (`C09_stop_restores`); crash-freedom of a cycle
  needs the PWM map to be installed (`Inv.map_some`; `C09_cycle_needs_map` shows it is needed –
  that it IS installed before the first cycle is C12/C15); curve evaluation needs every configured
  sensor to be present in the sensor table (`SensorsPresent`; a sensor that cannot be created fails
  start-up, C17). Observation (not a crash): a failing cycle ends the WHOLE daemon in an orderly way,
  all fans restored – not only the affected fan (`C09_process_stops_orderly`).
-/
import Fan2go.Proofs.NoCrash
import Fan2go.Props.C01
import Fan2go.Props.C03
import Fan2go.Props.C08
import Fan2go.Props.C11
import Fan2go.Props.Facts
namespace Fan2go
open F64

/-- One `UpdateFanSpeed()` never panics on its own: for EVERY device state (all read/write fault
    switches, registers and response arbitrary), every fan kind, every control loop, every `indef`,
    and any curve outcome that is a value or an error (the curve's own crash-freedom is
    `C09_curve_no_crash_validated`). A panic could only come from `FindClosest` on an empty slice –
    excluded by `Inv.map_some` – or be the curve's panic passed through. -/
theorem C09_cycle_no_crash (indef : Int) (w : World) (curve : Res Int) (now : Int)
    (hinv : Inv w) (hc : ∀ s, curve ≠ .panic s) :
    ∀ s, (updateFanSpeed indef w curve now).2.1 ≠ .panic s :=
  ufs_no_panic hinv.distinct_ne indef curve now hc

/-- a fan with every switch on "fail": PWM unreadable, PWM writes refused, mode unreadable (permission)
    and unwritable, RPM unreadable -/
def C09_allFaults : Dev :=
  { pwm := 77, mode := 2, rpm := 0, pwmRead := .errOther (-1), pwmWrite := .refused,
    modeRead := .errPerm, modeWrite := .refused, rpmRead := .errOther 0, hasMode := true, hasRpm := true }

def C09_faulty : World := { exWorld with dev := C09_allFaults }

theorem C09_faulty_inv : Inv C09_faulty := exWorld_inv.of_same (FanSame.refl _) rfl rfl rfl

/-- non-vacuity: with all faults switched on the cycle returns `ok` (write error only logged) and a
    refused write is observed -/
example : (updateFanSpeed 0 C09_faulty (.ok 100) 0).2.1 = .ok () ∧
    ∃ v, Obs.wrotePwm v false ∈ (updateFanSpeed 0 C09_faulty (.ok 100) 0).2.2 := by
  refine ⟨by decide +kernel, 100, by decide +kernel⟩

/-- the hypothesis `Inv.map_some` is needed: without an installed PWM map (`pwmMap = nil`, no
    supported inputs) the very first `setPwm` indexes an empty slice. -/
theorem C09_cycle_needs_map :
    ∃ w : World, w.ctl.pwmMap = none ∧ w.ctl.distinct = #[] ∧
      (updateFanSpeed 0 w (.ok 100) 0).2.1 = .panic "index-out-of-range" :=
  ⟨{ fan := {}, dev := {}, ctl := {} }, rfl, rfl, by decide +kernel⟩

/-- … and a curve panic IS passed through (so the hypothesis on `curve` is needed too) -/
example : (updateFanSpeed 0 exWorld (.panic "curve") 0).2.1 = .panic "curve" := by decide +kernel

/-- `measureRpm` is a total function on worlds – its model has no `Res` at all: a failed PWM or RPM
    read is replaced by 0 (controller.go measureRpm logs either error as a warning and goes on) –
    it keeps the invariant, and it touches neither the device nor the controller state. -/
theorem C09_poll_total (indef : Int) (w : World) (hinv : Inv w) :
    Inv (measureRpm indef w) ∧ (measureRpm indef w).dev = w.dev ∧ (measureRpm indef w).ctl = w.ctl :=
  ⟨C01_inv_step indef w .poll hinv, rfl, rfl⟩

example : Inv (measureRpm 0 C09_faulty) := (C09_poll_total 0 _ C09_faulty_inv).1

/-- Every cycle from an `Inv` world either returns `ok` with the invariant intact (so the next cycle is
    covered again: regulation continues), or returns an ERROR – not a panic – and that failing cycle
    has not touched the device nor the original mode / PWM captured at start-up. -/
theorem C09_dichotomy (indef : Int) (w : World) (curve : Res Int) (now : Int)
    (hinv : Inv w) (hc : ∀ s, curve ≠ .panic s) :
    let out := stepEv indef w (.cycle curve now)
    (out.result = .ok () ∧ Inv out.w) ∨
    (∃ e, out.result = .err e ∧ out.w.dev = w.dev ∧ out.w.ctl.origMode = w.ctl.origMode ∧
      out.w.ctl.origPwm = w.ctl.origPwm) := by
  intro out
  cases h : (updateFanSpeed indef w curve now).2.1 with
  | ok u => exact .inl ⟨h, C01_inv_step indef w _ hinv⟩
  | err e =>
    have hf := ufs_err_frame h
    exact .inr ⟨e, h, hf.dev, hf.origMode, hf.origPwm⟩
  | panic s => exact absurd h (ufs_no_panic hinv.distinct_ne indef curve now hc s)

/-- In the second case `Run` calls `restorePwmEnabled` (`case <-tick.C`, controller.go:227-231) and returns nil to the
    actor group. Under the hypotheses of `C03_restore` on the world BEFORE the failing cycle (the
    last-resort write applies: PWM writes land, the register accepts 255, the mode read-back is not
    blind) the fan ends in its original non-manual mode or at PWM 255. Which faults void these
    hypotheses, and that nothing could be done then, is `C03_restore_tight*`, `_perm_blind`,
    `_read_blind`. -/
theorem C09_stop_restores (indef : Int) (w : World) (curve : Res Int) (now : Int) (e : String)
    (h : (stepEv indef w (.cycle curve now)).result = .err e)
    (hpw : w.dev.pwmWrite = .applied) (h255 : w.dev.resp.apply 255 = 255)
    (hmr : w.dev.modeRead = .ok ∨ ∃ v, w.dev.modeRead = .errOther v ∧ v ≠ w.ctl.origMode) :
    Restored (restorePwmEnabled (stepEv indef w (.cycle curve now)).w).1 := by
  rw [stepEv_cycle] at h
  have hf := ufs_err_frame h
  show Restored (restorePwmEnabled (updateFanSpeed indef w curve now).1).1
  exact C03_restore _ (by rw [hf.dev]; exact hpw) (by rw [hf.dev]; exact h255)
    (by rw [hf.dev, hf.origMode]; exact hmr)

/-- A curve error (failed sensor read behind a PID curve, propagated through function curves) is
    such a stop: the cycle returns an error – it is not escalated with `ui.Fatal` – and the world is
    exactly as before. Holds in EVERY world (no invariant needed). -/
theorem C09_curve_err_stops (indef : Int) (w : World) (e : String) (now : Int) :
    ∃ e', stepEv indef w (.cycle (.err e) now) = { w := w, obs := [], result := .err e' } := by
  obtain ⟨e', h⟩ := calc_curve_err indef w e now
  exact ⟨e', by rw [stepEv_cycle, ufs_eq, h]⟩

/-- non-vacuity, "keeps regulating": all faults on, three cycles, a poll and a change of the fault
    pattern in between – every step returns `ok` -/
example : (runEvs 0 C09_faulty [.cycle (.ok 100) 0, .poll, .cycle (.ok 100) 1,
      .env { C09_allFaults with pwmRead := .ok, pwmWrite := .ignored }, .cycle (.ok 20) 2]).map
    (·.2.2.result) = [.ok (), .ok (), .ok (), .ok (), .ok ()] := by decide +kernel

/-- non-vacuity, "stops and is restored" (1): the sensor behind the curve fails, the cycle returns
    that error, the restore puts the fan into its original mode 0 -/
example : (stepEv 0 exWorld (.cycle (.err "sensor") 0)).result = .err "sensor" ∧
    Restored (restorePwmEnabled (stepEv 0 exWorld (.cycle (.err "sensor") 0)).w).1 ∧
    (restorePwmEnabled (stepEv 0 exWorld (.cycle (.err "sensor") 0)).w).1.dev.mode = 0 := by
  have h : (stepEv 0 exWorld (.cycle (.err "sensor") 0)).result = .err "sensor" := by decide +kernel
  exact ⟨h, C09_stop_restores 0 exWorld _ 0 _ h rfl rfl (.inl rfl), by decide +kernel⟩

/-- non-vacuity, "stops and is restored" (2): the never-stop fan stalled at its maximum
    (`C03_stalled`), with the mode write silently ignored on top: error, then PWM 255 -/
example : (stepEv 0 { C03_stalled with dev := { pwm := 255, mode := 1, modeWrite := .ignored } }
      (.cycle (.ok 255) 0)).result = .err "stalled-at-max" ∧
    (restorePwmEnabled (stepEv 0 { C03_stalled with dev := { pwm := 255, mode := 1, modeWrite := .ignored } }
      (.cycle (.ok 255) 0)).w).1.dev.pwm = 255 := by decide +kernel

open Lifecycle in
/-- What "stops regulating" means for the process (backend.go `RunDaemon`, oklog/run, `Run`; model
    Model/Lifecycle.lean, fixed semantics = the code in /repo now): `UpdateFanSpeed` returning an error at
    any moment (`CAct.fail` in phase `ticking`), a sensor monitor returning an error (`otherError`), for any
    number of controllers and any interleaving with signals – the process never panics, and whenever it
    has exited every controller that had begun to regulate has restored its fan (C03 part (ii)). The
    controller whose cycle failed restores its fan and returns nil; since every actor of the group is then
    interrupted, the daemon as a whole shuts down in an orderly way (exit status 0) – it does not merely
    drop the one fan. -/
theorem C09_process_stops_orderly (rpms : List Bool) (sched : List Choice) :
    (lrun .fixed (linit rpms) sched).proc ≠ .panicked ∧
    ∀ code, (lrun .fixed (linit rpms) sched).proc = .exited code →
      ∀ c ∈ (lrun .fixed (linit rpms) sched).ctls, c.regulated = true → c.restored = true :=
  ⟨(C03_lifecycle_no_crash rpms sched).1,
   fun code h c hc => (C03_lifecycle_restores rpms sched code h c hc).2⟩

/-- non-vacuity: two fans; fan 0 regulates, its `UpdateFanSpeed` fails; it restores and returns; the group
    interrupts fan 1 (also regulating), which restores too; exit status 0 -/
example :
    (Lifecycle.lrun .fixed (Lifecycle.linit [false, false])
      [.ctl 0 .advance, .ctl 0 .advance, .ctl 0 .advance, .ctl 0 .advance, .ctl 0 .advance, .ctl 0 .tick,
       .ctl 1 .advance, .ctl 1 .advance, .ctl 1 .advance, .ctl 1 .advance, .ctl 1 .advance, .ctl 1 .tick,
       .ctl 0 .fail, .ctl 0 .advance, .ctl 0 .advance, .interrupt, .sigActor,
       .ctl 1 .seeCancel, .ctl 1 .advance, .ctl 1 .advance, .exit]).proc = .exited 0 ∧
    ((Lifecycle.lrun .fixed (Lifecycle.linit [false, false])
      [.ctl 0 .advance, .ctl 0 .advance, .ctl 0 .advance, .ctl 0 .advance, .ctl 0 .advance, .ctl 0 .tick,
       .ctl 1 .advance, .ctl 1 .advance, .ctl 1 .advance, .ctl 1 .advance, .ctl 1 .advance, .ctl 1 .tick,
       .ctl 0 .fail, .ctl 0 .advance, .ctl 0 .advance, .interrupt, .sigActor,
       .ctl 1 .seeCancel, .ctl 1 .advance, .ctl 1 .advance, .exit]).ctls.map
        (fun c => (c.regulated, c.restored))) = [(true, true), (true, true)] := by decide

/-- Every step of a run from an `Inv` world is of one of the two kinds of `C09_dichotomy`: `ok` with the
    invariant intact, or (a cycle, then the last step of the run) an error with the device untouched. -/
theorem C09_run_dichotomy (indef : Int) (w0 : World) (es : List Ev) (hinv : Inv w0)
    (hc : ∀ curve now, Ev.cycle curve now ∈ es → ∀ s, curve ≠ .panic s) :
    ∀ x ∈ runEvs indef w0 es,
      (x.2.2.result = .ok () ∧ Inv x.2.2.w) ∨
      (∃ e, x.2.2.result = .err e ∧ x.2.2.w.dev = x.1.dev ∧ x.2.2.w.ctl.origMode = x.1.ctl.origMode ∧
        x.2.2.w.ctl.origPwm = x.1.ctl.origPwm) := by
  intro x hx
  obtain ⟨hi, hmem, hstep⟩ := run_pre_inv indef w0 es hinv x hx
  rw [hstep]
  cases he : x.2.1 with
  | env d => exact .inl ⟨rfl, C01_inv_step indef x.1 _ hi⟩
  | poll => exact .inl ⟨rfl, C01_inv_step indef x.1 _ hi⟩
  | cycle curve now =>
    rw [he] at hmem
    exact C09_dichotomy indef x.1 curve now hi (hc curve now hmem)

/-- Along every run from an `Inv` world – events in any order and number, `.env d` replacing the whole
    device state (every fault switch) between any two of them – no step panics, provided the curve
    outcomes fed to the cycles are values or errors. -/
theorem C09_run_no_crash (indef : Int) (w0 : World) (es : List Ev) (hinv : Inv w0)
    (hc : ∀ curve now, Ev.cycle curve now ∈ es → ∀ s, curve ≠ .panic s) :
    ∀ x ∈ runEvs indef w0 es, ∀ s, x.2.2.result ≠ .panic s := by
  intro x hx s
  rcases C09_run_dichotomy indef w0 es hinv hc x hx with ⟨h, -⟩ | ⟨e, h, -⟩ <;> rw [h] <;> nofun

example : ∀ x ∈ runEvs 0 C09_faulty [.cycle (.ok 100) 0, .poll, .env {}, .cycle (.err "read") 1, .poll],
    ∀ s, x.2.2.result ≠ .panic s :=
  C09_run_no_crash 0 _ _ C09_faulty_inv (by
    intro curve now hm s
    simp only [List.mem_cons, List.not_mem_nil, or_false, reduceCtorEq, Ev.cycle.injEq, false_or] at hm
    rcases hm with ⟨rfl, -⟩ | ⟨rfl, -⟩ <;> (intro h; cases h))

/-- a sensor poll never panics: every backend, every outcome of its I/O (read failure, exec failure,
    garbage, NaN/Inf), every window size -/
theorem C09_sensor_poll_no_crash (n : Int) (avg : F64) (k : SensorKind) (io : SensorIo) :
    ∀ s, (updateSensor n avg k io).2 ≠ .panic s := by
  unfold updateSensor
  rcases C08_getValue_total k io with ⟨v, h⟩ | ⟨e, h⟩ <;> rw [h] <;> nofun

/-- … and a failed read keeps the last good data (the moving average is unchanged) – C08 -/
theorem C09_sensor_failed_keeps_last (n : Int) (avg : F64) (k : SensorKind) (io : SensorIo) (e : String)
    (h : sensorGetValue k io = .err e) :
    (updateSensor n avg k io).1 = avg ∧ (updateSensor n avg k io).2 = .err e :=
  C08_failed_read_unchanged n avg k io e h

example : (updateSensor 10 (fin 42) .cmd .parseErr).1 = fin 42 ∧
    ∀ s, (updateSensor 10 (fin 42) .cmd .parseErr).2 ≠ .panic s :=
  ⟨(C09_sensor_failed_keeps_last 10 _ .cmd .parseErr _ rfl).1, C09_sensor_poll_no_crash _ _ _ _⟩

/-- A PID curve whose sensor is present and whose `GetValue` fails returns that error – no panic –
    and leaves the table (its `Value`, its PID memory, all other curves) unchanged (pid.go:21-29). -/
theorem C09_curve_error_not_crash (indef : Int) (sensors : SensorTable) (now : Int) (fuel : Nat)
    (tbl : CurveTable) (id : String) (c : Curve) (sensor : String) (setPoint : F64)
    (sv : SensorView) (e : String) (hget : tbl.get? id = some c) (hcfg : c.cfg = .pid sensor setPoint)
    (hs : sensors.get? sensor = some sv) (hv : sv.value = .err e) :
    evalCurve indef sensors now (fuel + 1) tbl id = (tbl, .err e) := by
  rw [evalCurve]
  simp only [hget, hcfg, hs, hv]

/-- A linear curve reads only the moving average (the last good data, `C09_sensor_failed_keeps_last`):
    whatever `GetValue` would return – value, error – its evaluation is the same; and with its sensor
    present and a step map that is not empty-and-non-nil it returns a value. -/
theorem C09_linear_ignores_read_failure (indef : Int) (S S' : SensorTable) (now now' : Int) (fuel : Nat)
    (tbl : CurveTable) (id : String) (c : Curve) (sensor : String) (mn mx : Int)
    (steps : Option (List (Int × F64))) (sv sv' : SensorView) (hget : tbl.get? id = some c)
    (hcfg : c.cfg = .linear sensor mn mx steps) (hs : S.get? sensor = some sv)
    (hs' : S'.get? sensor = some sv') (havg : sv.avg = sv'.avg) :
    evalCurve indef S now (fuel + 1) tbl id = evalCurve indef S' now' (fuel + 1) tbl id ∧
    (steps ≠ some [] → ∃ v, (evalCurve indef S now (fuel + 1) tbl id).2 = .ok v) :=
  ⟨by rw [evalCurve, evalCurve]; simp only [hget, hcfg, hs, hs', havg],
   evalCurve_linear_ok indef S now fuel tbl id c sensor mn mx steps sv hget hcfg hs⟩

/-- Function curves propagate a member's error as an error (functional.go:24-37): the error of the
    first member, the error of a later member after the earlier ones evaluated, and the error of the
    member list as the outcome of the function curve. They never manufacture a panic from one: if the
    member list panics, some member did. -/
theorem C09_fn_propagates_err (indef : Int) (sensors : SensorTable) (now : Int) (fuel : Nat)
    (tbl : CurveTable) :
    (∀ m ms e, (evalCurve indef sensors now fuel tbl m).2 = .err e →
      (evalMembers indef sensors now fuel tbl (m :: ms)).2 = .err e) ∧
    (∀ m ms v e, (evalCurve indef sensors now fuel tbl m).2 = .ok v →
      (evalMembers indef sensors now fuel (evalCurve indef sensors now fuel tbl m).1 ms).2 = .err e →
      (evalMembers indef sensors now fuel tbl (m :: ms)).2 = .err e) ∧
    (∀ id c ty ms e, tbl.get? id = some c → c.cfg = .function ty ms →
      (evalMembers indef sensors now fuel tbl ms).2 = .err e →
      (evalCurve indef sensors now (fuel + 1) tbl id).2 = .err e) ∧
    (∀ ms s, (evalMembers indef sensors now fuel tbl ms).2 = .panic s →
      ∃ m ∈ ms, ∃ tbl', (evalCurve indef sensors now fuel tbl' m).2 = .panic s) :=
  ⟨fun m ms e h => by rw [evalMembers_cons, h]; rfl,
   fun m ms v e h ht => by rw [evalMembers_cons, h, Res.bind, ht]; rfl,
   fun id c ty ms e hget hcfg h => by
    rw [evalCurve_function indef sensors now fuel tbl id c ty ms hget hcfg, h]; rfl,
   fun ms s h =>
    let ⟨m, hm, tbl', _, h'⟩ := evalMembers_panic_origin indef sensors now fuel ms tbl s h
    ⟨m, hm, tbl', h'⟩⟩

/-- a function curve ("average") nesting a function curve ("maximum") that nests a linear and a PID curve -/
def C09_tbl : CurveTable :=
  [{ id := "lin", cfg := .linear "a" 40 80 none },
   { id := "pid", cfg := .pid "b" (ofInt 50) },
   { id := "fn", cfg := .function "maximum" ["lin", "pid"] },
   { id := "top", cfg := .function "average" ["lin", "fn"] }]

/-- both sensors' reads fail; the averages hold the last good data -/
def C09_sensors : SensorTable :=
  [("a", { avg := ofInt 60000, value := .err "read" }), ("b", { avg := ofInt 50000, value := .err "exec" })]

/-- non-vacuity: the linear curve still evaluates (60 °C between 40 and 80: 127), the PID curve's
    error travels up through both function curves as that error -/
example : (evalCurve 0 C09_sensors 0 5 C09_tbl "lin").2 = .ok 127 ∧
    (evalCurve 0 C09_sensors 0 5 C09_tbl "pid").2 = .err "exec" ∧
    (evalCurve 0 C09_sensors 0 5 C09_tbl "fn").2 = .err "exec" ∧
    (evalCurve 0 C09_sensors 0 5 C09_tbl "top").2 = .err "exec" := by
  refine ⟨?_, ?_, ?_, ?_⟩
  · rw [evalCurve_linear 0 C09_sensors 0 4 C09_tbl "lin" _ "a" 40 80 none _ rfl rfl rfl]
    decide +kernel
  · rw [C09_curve_error_not_crash 0 C09_sensors 0 4 C09_tbl "pid" _ "b" _ _ "exec" rfl rfl rfl rfl]
  · simp [evalCurve, evalMembers, C09_tbl, C09_sensors, CurveTable.get?, SensorTable.get?, CurveTable.set]
  · simp [evalCurve, evalMembers, C09_tbl, C09_sensors, CurveTable.get?, SensorTable.get?, CurveTable.set]

open Cfg in
/-- Every curve of an ACCEPTED configuration (`validateConfig … = ok`, the validator with the fixes of
    C11), evaluated against ANY sensor table in which every configured sensor is present – moving
    averages arbitrary, `GetValue` outcomes arbitrary values or errors – and in ANY table state that
    evaluation can produce (same ids and curve configurations as the instantiated table; `Value`s and
    PID memories arbitrary): no panic, the recursion stays within the budget `#curves + 1`, and the
    table keeps its shape, so the statement applies again at the next cycle. This extends
    `C11_eval_total` (which asks for finite `ok` values) to failing sensors: the PID branch returns
    the error early, linear curves never call `GetValue`. -/
theorem C09_curve_no_crash_validated (c : Configuration) (permOk : Bool)
    (h : validateConfig c permOk = .ok ())
    (indef : Int) (sensors : SensorTable) (now : Int) (hs : SensorsPresent c sensors)
    (T : CurveTable) (hT : cfgOf T = cfgOf (toCurveTable c)) :
    ∀ cc ∈ c.curves,
      cfgOf (evalCurve indef sensors now (c.curves.length + 1) T cc.id).1 = cfgOf (toCurveTable c) ∧
      ∀ site, (evalCurve indef sensors now (c.curves.length + 1) T cc.id).2 ≠ .panic site :=
  eval_no_panic_of_accepted c permOk h indef sensors now hs T hT

open Cfg in
/-- The side condition "`GetValue` does not itself panic" holds for every sensor backend and every
    outcome of its I/O (`C08_getValue_total`): if each configured sensor's view is produced by
    `sensorGetValue`, no curve evaluation panics. -/
theorem C09_curve_no_crash_backends (c : Configuration) (permOk : Bool)
    (h : validateConfig c permOk = .ok ())
    (indef : Int) (sensors : SensorTable) (now : Int)
    (hs : ∀ s ∈ c.sensors, ∃ sv, sensors.get? s.id = some sv ∧ ∃ k io, sv.value = sensorGetValue k io) :
    ∀ cc ∈ c.curves, ∀ site,
      (evalCurve indef sensors now (c.curves.length + 1) (toCurveTable c) cc.id).2 ≠ .panic site := by
  intro cc hcc
  refine (C09_curve_no_crash_validated c permOk h indef sensors now ?_ _ rfl cc hcc).2
  intro s hsm
  obtain ⟨sv, h1, k, io, h2⟩ := hs s hsm
  refine ⟨sv, h1, ?_⟩
  rcases C08_getValue_total k io with ⟨v, h⟩ | ⟨e, h⟩ <;> rw [h2, h] <;> nofun

/-- all three sensors of the shipped configuration fail (hwmon read failures), averages arbitrary -/
def C09_shippedSensors (a b c : F64) : SensorTable :=
  [("cpu_package", { avg := a, value := sensorGetValue .hwmon .readFail }),
   ("mainboard", { avg := b, value := sensorGetValue .file .readFail }),
   ("sata_ssd", { avg := c, value := sensorGetValue .cmd (.parsed nan) })]

/-- non-vacuity of the two theorems above: the shipped fan2go.yaml with every sensor failing and
    NaN averages -/
example : ∀ cc ∈ C11.shipped.curves, ∀ site,
    (evalCurve 0 (C09_shippedSensors nan nan nan) 0 (C11.shipped.curves.length + 1)
      (Cfg.toCurveTable C11.shipped) cc.id).2 ≠ .panic site :=
  C09_curve_no_crash_backends C11.shipped true C11.shipped_accepted 0 _ 0 (by
    intro s hs
    simp only [C11.shipped, List.mem_cons, List.not_mem_nil, or_false] at hs
    rcases hs with rfl | rfl | rfl
    · exact ⟨_, rfl, .hwmon, .readFail, rfl⟩
    · exact ⟨_, rfl, .file, .readFail, rfl⟩
    · exact ⟨_, rfl, .cmd, .parsed nan, rfl⟩)

open Cfg in
/-- The closed loop of one fan of an accepted configuration, regulated by any of its curves: per tick
    the environment chooses the COMPLETE device state (all fault switches) and the COMPLETE sensor
    table (each configured sensor present; its read succeeding or failing), the RPM monitor polls,
    the curve is evaluated on the evolving curve table, `UpdateFanSpeed` runs; the loop ends at the
    first cycle that does not return `ok`. For any number of ticks: no outcome is a panic – every
    cycle returns `ok`, or the last one returns an error (`C09_dichotomy`, `C09_stop_restores`). -/
theorem C09_closed_loop_no_crash (c : Configuration) (permOk : Bool)
    (h : validateConfig c permOk = .ok ()) (indef : Int) (cc : CurveConfig) (hcc : cc ∈ c.curves)
    (w : World) (hinv : Inv w) (ts : List Tick) (hs : ∀ t ∈ ts, SensorsPresent c t.sensors) :
    ∀ r ∈ closedLoop indef (c.curves.length + 1) cc.id w (toCurveTable c) ts,
      r = .ok () ∨ ∃ e, r = .err e := by
  intro r hr
  have := closedLoop_no_panic c permOk h indef cc hcc ts hs w _ hinv rfl r hr
  cases r with
  | ok u => exact .inl rfl
  | err e => exact .inr ⟨e, rfl⟩
  | panic s => exact absurd rfl (this s)

theorem C09_shippedSensors_present (a b c : F64) : Cfg.SensorsPresent C11.shipped (C09_shippedSensors a b c) := by
  intro s hs
  simp only [C11.shipped, List.mem_cons, List.not_mem_nil, or_false] at hs
  rcases hs with rfl | rfl | rfl <;> exact ⟨_, rfl, fun site h => by cases h⟩

def C09_healthySensors : SensorTable :=
  [("cpu_package", C11.sv50), ("mainboard", C11.sv50), ("sata_ssd", C11.sv50)]

theorem healthySensors_present : Cfg.SensorsPresent C11.shipped C09_healthySensors :=
  Cfg.SensorsDefined.present C11.sv50_defined

/-- non-vacuity of the hypotheses: the shipped configuration's `case_avg_curve` (function curve over
    three linear curves) driving `C09_faulty`; first tick healthy, second tick all device faults and all
    sensor reads failing with NaN averages, third tick healthy again -/
example : ∀ r ∈ Cfg.closedLoop 0 (C11.shipped.curves.length + 1) "case_avg_curve" C09_faulty
    (Cfg.toCurveTable C11.shipped)
    [{ dev := {}, sensors := C09_healthySensors, now := 0 },
     { dev := C09_allFaults, sensors := C09_shippedSensors nan nan nan, now := 1 },
     { dev := {}, sensors := C09_healthySensors, now := 2 }], r = .ok () ∨ ∃ e, r = .err e :=
  C09_closed_loop_no_crash C11.shipped true C11.shipped_accepted 0
    { id := "case_avg_curve",
      function := some { type := "average", curves := ["cpu_curve", "mainboard_curve", "ssd_curve"] } }
    (by simp [C11.shipped]) C09_faulty C09_faulty_inv _ (by
      intro t ht
      simp only [List.mem_cons, List.not_mem_nil, or_false] at ht
      rcases ht with rfl | rfl | rfl
      · exact healthySensors_present
      · exact C09_shippedSensors_present _ _ _
      · exact healthySensors_present)

/-- … and of the conclusion: a tick with ALL device faults on and ALL sensor reads failing (the
    averages hold the last good 50 °C) is a cycle that returns `ok` – the loop keeps regulating -/
example : Cfg.closedLoop 0 (C11.shipped.curves.length + 1) "mainboard_curve" C09_faulty
    (Cfg.toCurveTable C11.shipped)
    [{ dev := C09_allFaults, sensors := C09_shippedSensors (ofInt 50000) (ofInt 50000) (ofInt 50000), now := 1 }]
    = [.ok ()] := by
  rw [Cfg.closedLoop]
  dsimp only
  rw [evalCurve_linear 0 _ 1 _ (Cfg.toCurveTable C11.shipped) "mainboard_curve" _ "mainboard" 40 80 none _
    rfl rfl rfl]
  decide +kernel

/-- The regenerated list of `panic(` / `ui.Fatal` / `os.Exit` / `log.Fatal` / `MustCompile` / unchecked
    type-assertion sites in the packages `RunDaemon` can reach equals the accounted list
    (`Fan2go.fact_crash_sites`; the table is regenerated from /repo's current sources on every check run,
    so a new crash site on a daemon path breaks this theorem). Disposition of each site class (why it
    cannot fire on a sensor / fan fault at a control cycle):
    * `RunDaemon` ui.Fatal ×2, FatalWithoutStacktrace, os.Exit ×2 — start-up failures and the final exit, before / after regulation;
    * `configuration.*` — configuration loading, before the daemon starts;
    * `DefaultFanController.Run` ui.Fatal — in the interrupt function, only for a non-nil actor error; the actor always returns nil;
    * `NewFanController` ui.Fatal — start-up (unknown curve id; excluded by validation);
    * `Snapshot*Map` type assertions — on the result of `reprint.This` of the same static type;
    * `FunctionSpeedCurve.Evaluate` ui.Fatal — unknown function type; excluded by validation (C11; `evalFn`'s
      "fatal-unknown-function" site, covered by `C09_curve_no_crash_validated`);
    * `findPlatform` MustCompile — constant pattern; `FatalWithoutStacktrace` os.Exit — its own definition;
    * `CheckFilePermissionsForExecution` `info.Sys().(*syscall.Stat_t)` — Linux always supplies that type
      (and `info` is not nil there: every `os.Stat` error is returned before, `C19_stat_error_is_error`);
    * `FindFilesMatching` — used by `fan2go detect` only.
    `calculateTargetPwm` is not in the list: a curve evaluation error is returned (`C09_curve_err_stops`),
    not escalated with `ui.Fatal`. The run-time panics that are not syntactic sites (index out of range in
    `FindClosest` / `CalculateInterpolatedCurveValue` / `delta`, integer division by zero in `average`,
    nil curve / nil sensor dereference) are the `Res.panic` sites of the models, covered by the theorems
    above. -/
theorem C09_sites_accounted :
    Generated.crashSites = [
      ("internal/backend.go", "RunDaemon", "ui.Fatal", 0, ""),
      ("internal/backend.go", "RunDaemon", "ui.Fatal", 1, ""),
      ("internal/backend.go", "RunDaemon", "ui.FatalWithoutStacktrace", 2, ""),
      ("internal/backend.go", "RunDaemon", "os.Exit", 3, ""),
      ("internal/backend.go", "RunDaemon", "os.Exit", 4, ""),
      ("internal/configuration/config.go", "DetectAndReadConfigFile", "ui.FatalWithoutStacktrace", 0, ""),
      ("internal/configuration/config.go", "InitConfig", "os.Exit", 0, ""),
      ("internal/configuration/config.go", "LoadConfig", "ui.Fatal", 0, ""),
      ("internal/controller/controller.go", "DefaultFanController.Run", "ui.Fatal", 0, ""),
      ("internal/controller/controller.go", "NewFanController", "ui.Fatal", 0, ""),
      ("internal/curves/curve.go", "SnapshotSpeedCurveMap", "typeassert", 0, "map[string]SpeedCurve"),
      ("internal/curves/functional.go", "FunctionSpeedCurve.Evaluate", "ui.Fatal", 0, ""),
      ("internal/fans/common.go", "SnapshotFanMap", "typeassert", 0, "map[string]Fan"),
      ("internal/hwmon/hwmon.go", "findPlatform", "MustCompile", 0, ""),
      ("internal/sensors/common.go", "SnapshotSensorMap", "typeassert", 0, "map[string]Sensor"),
      ("internal/ui/logging.go", "FatalWithoutStacktrace", "os.Exit", 0, ""),
      ("internal/util/file.go", "CheckFilePermissionsForExecution", "typeassert", 0, "*syscall.Stat_t"),
      ("internal/util/file.go", "FindFilesMatching", "ui.Fatal", 0, ""),
      ("internal/util/file.go", "FindFilesMatching", "panic", 1, ""),
      ("internal/util/file.go", "FindFilesMatching", "panic", 2, "")] :=
  Fan2go.fact_crash_sites

/-- in particular no syntactic crash site is left in the functions of the control cycle, the RPM poll
    and the restore (controller.go), nor anywhere in the sensor monitor, the PID and linear curves, the
    fan and sensor backends, the exec wrapper and the numeric helpers -/
theorem C09_no_site_in_cycle_path :
    Generated.crashSites.all (fun s =>
      !(["DefaultFanController.UpdateFanSpeed", "DefaultFanController.calculateTargetPwm",
         "DefaultFanController.ensureNoThirdPartyIsMessingWithUs", "DefaultFanController.setPwm",
         "DefaultFanController.measureRpm", "DefaultFanController.restorePwmEnabled",
         "trySetManualPwm", "updateSensor"].contains s.2.1) &&
      !(["internal/monitor.go", "internal/curves/pid.go", "internal/curves/linear.go",
         "internal/fans/hwmon.go", "internal/fans/file.go", "internal/fans/cmd.go",
         "internal/sensors/hwmon.go", "internal/sensors/file.go", "internal/sensors/cmd.go",
         "internal/util/exec.go", "internal/util/math.go", "internal/util/map.go",
         "internal/util/slice.go", "internal/util/pid.go", "internal/util/window.go"].contains s.1)) = true := by
  decide +kernel

end Fan2go

#print axioms Fan2go.C09_cycle_no_crash
#print axioms Fan2go.C09_faulty_inv
#print axioms Fan2go.C09_cycle_needs_map
#print axioms Fan2go.C09_poll_total
#print axioms Fan2go.C09_dichotomy
#print axioms Fan2go.C09_stop_restores
#print axioms Fan2go.C09_curve_err_stops
#print axioms Fan2go.C09_process_stops_orderly
#print axioms Fan2go.C09_run_no_crash
#print axioms Fan2go.C09_run_dichotomy
#print axioms Fan2go.C09_sensor_poll_no_crash
#print axioms Fan2go.C09_sensor_failed_keeps_last
#print axioms Fan2go.C09_curve_error_not_crash
#print axioms Fan2go.C09_linear_ignores_read_failure
#print axioms Fan2go.C09_fn_propagates_err
#print axioms Fan2go.C09_curve_no_crash_validated
#print axioms Fan2go.C09_curve_no_crash_backends
#print axioms Fan2go.C09_closed_loop_no_crash
#print axioms Fan2go.C09_shippedSensors_present
#print axioms Fan2go.C09_sites_accounted
#print axioms Fan2go.C09_no_site_in_cycle_path
