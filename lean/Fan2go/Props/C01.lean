/-
  C01 — Every PWM value written while regulating stays inside the fan's limits.

  For ALL `indef` (Go's implementation-defined `int(NaN)`), ALL control loops (`LoopSt.cycle` may
  return any `Int`; only the controller's clamp and rescale are used), ALL worlds satisfying `Inv`,
  ALL curve outcomes (values, errors, panics) and ALL finite event sequences.
-/
import Fan2go.Proofs.Stall
namespace Fan2go
open F64

def exMap : List (Int × Int) := [(0, 0), (50, 48), (100, 100), (255, 255)]

/-- the world of the non-vacuity examples here and, with a field or two changed, in C02, C09 and C10:
    a neverStop hwmon fan with min 30, max 200 and a sparse user PWM map -/
def exWorld : World :=
  { fan := FanSt.new .hwmon true (some 30) none (some 200)
    dev := { hasRpm := false }
    ctl := { pwmMap := some exMap, distinct := (extractKeys exMap).toArray }
    rpmWindow := 10 }

theorem exMap_ok : MapOk exMap := ⟨by decide, by decide, by decide⟩

theorem exWorld_inv : Inv exWorld where
  min_nonneg := by decide
  offset_nonneg := by decide
  floor_le_max := by decide
  max_le := by decide
  map_some := ⟨exMap, rfl, exMap_ok, rfl⟩

/-- the fan's own minimum is 0 unless the fan is a neverStop hwmon fan -/
theorem C01_getMin_zero_of_not_neverStop (f : FanSt) (h : f.neverStop = false) : f.getMin = 0 := by
  unfold FanSt.getMin; split
  · rw [h]; rfl
  · rfl

/-- The value `calculateTargetPwm` returns lies between the effective floor (fan minimum plus raises,
    before and after this cycle) and the fan's maximum. -/
theorem C01_requested_in_limits (indef : Int) (w w' : World) (curve : Res Int) (now t : Int)
    (obs : List Obs) (hinv : Inv w)
    (h : calculateTargetPwm indef w curve now = (w', .ok t, obs)) :
    w.floor ≤ t ∧ t ≤ w.fan.getMax ∧ w'.floor ≤ t :=
  (CalcCase.of_eq h).range hinv

/-- in particular it lies inside the fan's limits and inside 0..255 -/
theorem C01_requested_ge_min (indef : Int) (w w' : World) (curve : Res Int) (now t : Int)
    (obs : List Obs) (hinv : Inv w)
    (h : calculateTargetPwm indef w curve now = (w', .ok t, obs)) :
    w.fan.getMin ≤ t ∧ t ≤ w.fan.getMax ∧ 0 ≤ t ∧ t ≤ 255 := by
  obtain ⟨h1, h2, -⟩ := C01_requested_in_limits indef w w' curve now t obs hinv h
  have := hinv.min_le_floor; have := hinv.min_nonneg; have := hinv.max_le
  omega

example (indef : Int) : ∃ w' t obs, calculateTargetPwm indef exWorld (.ok 100) 0 = (w', .ok t, obs) := by
  obtain ⟨w', obs, h, -⟩ := calc_not_stalled exWorld_inv indef (cv := 100) (now := 0) (last := 0) rfl rfl
  exact ⟨w', _, obs, h⟩

/-- `Inv` survives every event: a cycle with ANY curve outcome (value, error, panic), an RPM poll,
    any change of the device by the environment. -/
theorem C01_inv_step (indef : Int) (w : World) (e : Ev) (hinv : Inv w) : Inv (stepEv indef w e).w :=
  (step_cases indef w e).inv hinv

example : Inv (stepEv 0 exWorld (.cycle (.panic "curve") 5)).w := C01_inv_step 0 exWorld _ exWorld_inv

/-- `Inv` holds in the final world of every run and in every pre-state of its trace. -/
theorem C01_inv_run (indef : Int) (w : World) (es : List Ev) (hinv : Inv w) :
    Inv (runFinal indef w es) ∧ ∀ x ∈ runEvs indef w es, Inv x.1 :=
  ⟨run_final_inv indef w es hinv, fun x hx => (run_pre_inv indef w es hinv x hx).1⟩

example : Inv (runFinal 0 exWorld [.poll, .cycle (.ok 300) 1, .env {}, .cycle (.err "x") 2]) :=
  (C01_inv_run 0 exWorld _ exWorld_inv).1

/-- Whatever one cycle writes to the PWM control is the PWM-map output of a supported input picked by
    `findClosestDistinctTarget` for the request of this very cycle, and a byte. -/
theorem C01_written_is_map_of_request (indef : Int) (w : World) (curve : Res Int) (now : Int)
    (out : StepOut) (hinv : Inv w) (hstep : stepEv indef w (.cycle curve now) = out) :
    ∀ v ok, Obs.wrotePwm v ok ∈ out.obs →
      ∃ t k m, Obs.requested t ∈ out.obs ∧ w.ctl.pwmMap = some m ∧ closestDistinct w.ctl t = .ok k ∧
        (∃ i, i < w.ctl.distinct.size ∧ w.ctl.distinct[i]! = k) ∧ v = mapGet m k ∧ 0 ≤ v ∧ v ≤ 255 := by
  intro v ok hv
  subst hstep
  exact (step_cases indef w _).wrote hinv hv

/-- `exWorld` with an unreadable PWM register: every successful cycle writes -/
def exBlind : World := { exWorld with dev := { hasRpm := false, pwmRead := .errPerm } }

theorem exBlind_inv : Inv exBlind := exWorld_inv.of_same (FanSame.refl _) rfl rfl rfl

/-- non-vacuity: a write is observed -/
example (indef : Int) : ∃ v ok, Obs.wrotePwm v ok ∈ (stepEv indef exBlind (.cycle (.ok 77) 0)).obs := by
  -- nothing requested yet and the register unreadable: "current" is the fan's minimum, 30
  obtain ⟨w', obs, h, -⟩ := calc_not_stalled exBlind_inv indef (cv := 77) (now := 0) (last := 30) rfl rfl
  exact step_writes_blind exBlind_inv (by decide) (by decide) h

/-- Along every run from an `Inv` world: every written value is a byte, and every requested value lies
    inside the limits of the fan in the state in which it was requested. -/
theorem C01_run (indef : Int) (w0 : World) (es : List Ev) (hinv : Inv w0) :
    ∀ x ∈ runEvs indef w0 es,
      (∀ v ok, Obs.wrotePwm v ok ∈ x.2.2.obs → 0 ≤ v ∧ v ≤ 255) ∧
      (∀ t, Obs.requested t ∈ x.2.2.obs → x.1.fan.getMin ≤ t ∧ t ≤ x.1.fan.getMax) := by
  intro x hx
  obtain ⟨hi, -, hstep⟩ := run_pre_inv indef w0 es hinv x hx
  have hc := step_cases indef x.1 x.2.1
  rw [← hstep] at hc
  constructor
  · intro v ok hv
    obtain ⟨t, k, m, -, -, -, -, -, h0, h1⟩ := hc.wrote hi hv
    exact ⟨h0, h1⟩
  · intro t ht
    obtain ⟨h0, h1, -⟩ := hc.requested hi ht
    exact ⟨le_trans hi.min_le_floor h0, h1⟩

example : (exWorld, Ev.cycle (.ok 77) 0, stepEv 0 exWorld (.cycle (.ok 77) 0)) ∈
    runEvs 0 exWorld [.cycle (.ok 77) 0, .poll] := by
  rw [runEvs_cons]; exact List.mem_cons_self

/-- Both control loops return a byte or Go's `int(NaN)`; the direct loop returns a byte whenever its
    `current` argument is an exactly representable integer (every 64-bit `lastSetPwm` below 2^53 is),
    and passes a byte target through unchanged when no rate limit is configured. The PID loop CAN
    return `int(NaN)` (`pidCycle_nan_witness`) – on amd64 `-2^63` – and then only the controller's
    own clamp (controller.go:457-463, `clamp255`) keeps the request inside the limits; that clamp is
    what `C01_requested_in_limits` relies on, not the loops. -/
theorem C01_loops_total (indef : Int) :
    (∀ l target current now,
      (0 ≤ (LoopSt.cycle indef l target current now).2 ∧ (LoopSt.cycle indef l target current now).2 ≤ 255) ∨
        (LoopSt.cycle indef l target current now).2 = indef) ∧
    (∀ m target current, |current| ≤ 2 ^ 53 →
      0 ≤ directCycle indef m target current ∧ directCycle indef m target current ≤ 255) ∧
    (∀ target current, 0 ≤ target → target ≤ 255 → directCycle indef none target current = target) ∧
    (∃ st target current now, (pidCycle indef st target current now).2 = indef) :=
  ⟨loopCycle_range indef, fun m t c => directCycle_range_of_current indef m t c,
    fun t c => directCycle_none_byte indef t c, ⟨_, _, _, _, pidCycle_nan_witness indef⟩⟩

end Fan2go

#print axioms Fan2go.C01_getMin_zero_of_not_neverStop
#print axioms Fan2go.C01_requested_in_limits
#print axioms Fan2go.C01_requested_ge_min
#print axioms Fan2go.C01_inv_step
#print axioms Fan2go.C01_inv_run
#print axioms Fan2go.C01_written_is_map_of_request
#print axioms Fan2go.C01_run
#print axioms Fan2go.C01_loops_total
