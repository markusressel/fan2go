/-
  C12 — the fan receives the nearest value it supports: `util.FindClosest` over the keys of
  `ExtractKeysWithDistinctValues`, and their composition as `setPwm` wires them (`C12_written`).
-/
import Fan2go.Proofs.Util
import Fan2go.Spec.Controller
namespace Fan2go

/-- `FindClosest` returns an element nearest to the request (either neighbour when equidistant). -/
theorem C12_findClosest_nearest (arr : Array Int) (t : Int) (hne : arr.size ≠ 0) (hs : StrictSorted arr) :
    ∃ r, findClosest t arr = .ok r ∧ Nearest arr t r :=
  findClosest_nearest arr t hne hs

/-- a request that is itself a supported input is applied exactly -/
theorem C12_exact (arr : Array Int) (hne : arr.size ≠ 0) (hs : StrictSorted arr) (i : Nat) (hi : i < arr.size) :
    findClosest arr[i]! arr = .ok arr[i]! :=
  findClosest_exact arr hne hs i hi

/-- requests below the smallest / above the largest supported input use that input -/
theorem C12_saturates (arr : Array Int) (t : Int) (hne : arr.size ≠ 0) :
    (t ≤ arr[0]! → findClosest t arr = .ok arr[0]!) ∧
    (¬ t ≤ arr[0]! → t ≥ arr[arr.size - 1]! → findClosest t arr = .ok arr[arr.size - 1]!) :=
  ⟨fun h => findClosest_low hne h, fun h1 h => findClosest_high hne h1 h⟩

/-- the binary search never leaves the slice and never falls through: it always returns an element -/
theorem C12_total (arr : Array Int) (t : Int) (hne : arr.size ≠ 0) :
    ∃ r, findClosest t arr = .ok r ∧ ∃ i, i < arr.size ∧ arr[i]! = r :=
  findClosest_mem arr t hne

/-- the supported inputs are the first input of each run of consecutive equal outputs
    (for outputs ≠ -1, in particular 0..255), strictly increasing, non-empty for a non-empty map -/
theorem C12_distinct_spec (m : List (Int × Int)) (hk : m.Pairwise (fun a b => a.1 < b.1))
    (hv : ∀ p ∈ m, p.2 ≠ -1) :
    (extractKeys m).Pairwise (· < ·) ∧
    (∀ k ∈ extractKeys m, ∃ v, (k, v) ∈ m) ∧
    (m ≠ [] → extractKeys m ≠ []) ∧
    ((extractKeys m).head? = m.head?.map Prod.fst) ∧
    (∀ pre post k0 v0 k v, m = pre ++ [(k0, v0), (k, v)] ++ post → (k ∈ extractKeys m ↔ v ≠ v0)) :=
  ⟨extractKeys_sorted m hk, extractKeys_sub m, extractKeys_ne_nil m, extractKeys_head? m,
   fun pre post k0 v0 k v hm => extractKeys_runs m pre post k0 v0 k v hk hv hm⟩

/-- the sentinel `-1` in `ExtractKeysWithDistinctValues` is why outputs must not be -1 -/
theorem C12_sentinel : extractKeys [(0, -1), (1, -1)] = [0, 1] ∧ extractKeys [(0, 5), (1, 5)] = [0] := by
  decide

/-- Composition as the controller wires it (`setPwm`): for a well-formed PWM map the value chosen for
    a request `t` is the map's output for a supported input nearest to `t`. -/
theorem C12_written (c : Ctl) (m : List (Int × Int)) (t : Int)
    (hm : c.pwmMap = some m) (hok : MapOk m) (hd : c.distinct = (extractKeys m).toArray) :
    ∃ k, closestDistinct c t = .ok k ∧ Nearest c.distinct t k ∧ applyPwmMapping c k = mapGet m k := by
  obtain ⟨r, hr, hn⟩ := findClosest_nearest c.distinct t
    (hd ▸ extractKeys_toArray_size_ne m hok.1) (hd ▸ extractKeys_strictSorted m hok.2.1)
  exact ⟨r, hr, hn, by simp [applyPwmMapping, hm]⟩

/-- non-vacuity: a sparse non-monotonic map -/
example : MapOk [(0, 0), (10, 40), (20, 40), (30, 10), (255, 255)] := by
  unfold MapOk; decide

example : extractKeys [(0, 0), (10, 40), (20, 40), (30, 10), (255, 255)] = [0, 10, 30, 255] := by decide

end Fan2go

#print axioms Fan2go.C12_findClosest_nearest
#print axioms Fan2go.C12_written
