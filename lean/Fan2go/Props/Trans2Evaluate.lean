import Fan2go.Generated.Trans2
import Fan2go.Props.Trans
import Fan2go.Props.GoSemLemmas
namespace Fan2go
open F64

def evalAll (ev : String → Res Int) : List String → Res (List Int)
  | [] => .ok []
  | id :: rest => match ev id with
    | .ok v => (match evalAll ev rest with | .ok vs => .ok (v :: vs) | .err e => .err e | .panic p => .panic p)
    | .err e => .err e
    | .panic p => .panic p

namespace EvaluateProof

attribute [local simp] Res.ok_bind Res.err_bind Res.panic_bind Res.pure_def

theorem wrap_eq : Go.wrap64 = wrap64 := by funext n; rfl

theorem members_loop (ev : String → Res Int) (l : List String) (acc : Array Int) :
    forIn (m := Res) l acc (fun curve s => do
        let v ← ev curve
        pure (ForInStep.yield (s.push v)))
      = (match evalAll ev l with
         | .ok vs => .ok (acc ++ vs.toArray)
         | .err e => .err e
         | .panic p => .panic p) := by
  induction l generalizing acc with
  | nil => simp [evalAll]
  | cons a l ih =>
    rw [List.forIn_cons, evalAll]
    cases ev a with
    | ok v =>
      show forIn (m := Res) l (acc.push v) _ = _
      rw [ih]
      cases evalAll ev l <;> simp
    | err e => rfl
    | panic p => rfl

theorem evalAll_length (ev : String → Res Int) : ∀ (l : List String) (vs : List Int),
    evalAll ev l = .ok vs → vs.length = l.length
  | [], _, h => by cases h; rfl
  | a :: l, vs, h => by
    rw [evalAll] at h
    split at h
    · split at h
      · next ws hl => cases h; exact congrArg (· + 1) (evalAll_length ev l ws hl)
      · cases h
      · cases h
    · cases h
    · cases h

theorem diff_tail (vs : List Int) (k : Nat) (hk : 0 < k) (d : Int) :
    forIn (m := Res) (((List.range' k vs.length).zip vs).map (fun p => ((p.1 : Int), p.2))) d
      (fun x s => if x.fst = 0 then pure (ForInStep.yield x.snd)
                  else pure (ForInStep.yield (Go.wrap64 (s - x.snd))))
      = .ok (vs.foldl (fun a b => wrap64 (a - b)) d) := by
  rw [wrap_eq]
  induction vs generalizing k d with
  | nil => rfl
  | cons v vs ih =>
    have hk' : ¬ ((k : Int) = 0) := by omega
    simp only [List.length_cons, List.range'_succ, List.zip_cons_cons, List.map_cons, List.forIn_cons,
      hk', ↓reduceIte, Res.pure_def, Res.ok_bind, List.foldl_cons]
    exact ih (k + 1) (by omega) _

theorem diff_loop (vs : List Int) :
    forIn (m := Res) (Go.enum vs.toArray) (0 : Int)
      (fun x s => if x.fst = 0 then pure (ForInStep.yield x.snd)
                  else pure (ForInStep.yield (Go.wrap64 (s - x.snd))))
      = .ok (match vs with
             | [] => 0
             | v :: rest => rest.foldl (fun a b => wrap64 (a - b)) v) := by
  unfold Go.enum
  cases vs with
  | nil => rfl
  | cons v rest =>
    simp only [List.size_toArray, List.length_cons, List.range_eq_range', List.range'_succ,
      List.zip_cons_cons, List.map_cons, List.forIn_cons, Int.natCast_zero, ↓reduceIte, Res.pure_def, Res.ok_bind]
    exact diff_tail rest (0 + 1) (by omega) v

/-- "delta": the generated state is (dmax, dmin), the model's is (dmin, dmax) -/
theorem delta_fold (vs : List Int) (a b : F64) :
    vs.foldl (fun (s : F64 × F64) v => (s.fst.fmax (ofInt v), s.snd.fmin (ofInt v))) (a, b)
      = ((vs.foldl (fun (acc : F64 × F64) v => (fmin acc.1 (ofInt v), fmax acc.2 (ofInt v))) (b, a)).2,
         (vs.foldl (fun (acc : F64 × F64) v => (fmin acc.1 (ofInt v), fmax acc.2 (ofInt v))) (b, a)).1) := by
  induction vs generalizing a b with
  | nil => rfl
  | cons v vs ih => simp only [List.foldl_cons]; exact ih _ _

end EvaluateProof
open EvaluateProof

/-- `(*FunctionSpeedCurve).Evaluate` (internal/curves/functional.go), translated from the current source, is: evaluate the
    members in configuration order (through the registry handle = id), stop at the first failure, then `evalFn` -/
theorem trans2_FunctionSpeedCurve_Evaluate (indef : Int) (ty : String) (ids : List String) (ev : String → Res Int) :
    Generated2.FunctionSpeedCurve_Evaluate indef (fun id => id) ev ids.toArray ty
      = (match evalAll ev ids with
         | .ok vs => evalFn indef ty vs
         | .err e => .err e
         | .panic p => .panic p) := by
  unfold Generated2.FunctionSpeedCurve_Evaluate
  simp only []  -- substitutes the `let mut`s the translator prints
  rw [Go.forIn_fold, List.foldl_push_eq_append']
  -- `Go.len` is not unfolded in the whole term (dear): the one length the method asks for is given as an equation
  simp only [Array.empty_append, Res.ok_bind, members_loop, show Go.len ids.toArray = (ids.length : Int) from rfl]
  cases h : evalAll ev ids with
  | err e => rfl
  | panic p => rfl
  | ok vs =>
    simp only [Res.ok_bind, Go.forIn_fold, diff_loop, ← evalAll_length ev ids vs h]
    simp only [Res.pure_def, wrap_eq]
    unfold evalFn sumInts
    refine ite_congr rfl (fun _ => ?sum) fun _ => ite_congr rfl (fun _ => ?difference) fun _ =>
      ite_congr rfl (fun _ => ?delta) fun _ => ite_congr rfl (fun _ => ?minimum) fun _ =>
      ite_congr rfl (fun _ => ?maximum) fun _ => ite_congr rfl (fun _ => ?average) fun _ => ?other
    case sum | minimum | maximum | other => rfl
    case difference => cases vs <;> rfl
    case delta =>
      cases vs with
      | nil => rfl
      | cons v0 tl =>
        rw [show Go.idx (v0 :: tl).toArray 0 = .ok v0 by simp [Go.idx]]
        simp only [Res.ok_bind, delta_fold]
    case average =>
      unfold Go.div
      by_cases hz : vs.length = 0
      · simp [hz, Res.panic_bind]
      · have hz' : ¬ ((vs.length : Int) = 0) := by omega
        simp only [hz, hz', ↓reduceIte, Res.ok_bind]

#print axioms trans2_FunctionSpeedCurve_Evaluate
end Fan2go
