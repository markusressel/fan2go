import Fan2go.Generated.Trans2
import Fan2go.Props.Trans
import Fan2go.Props.GoSemLemmas
import Fan2go.Proofs.Util
namespace Fan2go
open F64 Go

-- `ty` is the method's `interpolationType`, which it never reads
theorem trans2_util_CalculateInterpolatedCurveValue (indef : Int) (steps : List (Int × F64)) (ty : String) (input : F64)
    (h : SortedMap steps) :
    Generated2.util_CalculateInterpolatedCurveValue indef steps ty input = interp steps input := by
  unfold Generated2.util_CalculateInterpolatedCurveValue
  simp only [forIn, ForIn.forIn, Array.empty_append]
  cases hsteps : steps with
  | nil =>
    simp [interp, Go.loopFuel, Go.len, Go.sortedKeys, Go.idx, Res.ok_bind, Res.panic_bind, Res.pure_def]
  | cons p rest =>
    rw [← hsteps]
    have hpos : 0 < steps.length := by rw [hsteps]; simp
    have hlen : len (sortedKeys steps) - 1 = ((steps.length - 1 : Nat) : Int) := by
      simp [len, sortedKeys]; omega
    -- the model's value at index `i` is `interpLoop` on the entries from `i` on; a loop left without a result delivers
    -- the last entry
    refine loopFuel_rule (σ := Option F64 × Int) (fun s => ∃ i : Nat, s = (none, (i : Int)) ∧ i < steps.length)
      (fun s => steps.length - s.2.toNat) (fun s => interpLoop (s.2 == 0) (steps.drop s.2.toNat) input)
      (fun v r => (match r.1 with | some v => v | none => steps[steps.length - 1].2) = v) ?step
      ⟨0, rfl, hpos⟩ (by simp) ?post
    case step =>
      rintro _ ⟨i, rfl, hi⟩
      simp only [Int.toNat_natCast, hlen, Int.ofNat_lt]
      rw [List.drop_eq_getElem_cons hi]
      have hx := idx_sortedKeys steps i hi
      have hy := mapGet_getElem steps h i hi
      by_cases hl : i + 1 < steps.length
      · have hx' : idx (sortedKeys steps) ((i : Int) + 1) = _ := idx_sortedKeys steps (i + 1) hl
        have hy' := mapGet_getElem steps h (i + 1) hl
        rw [List.drop_eq_getElem_cons hl, interpLoop_cons_cons, List.getElem_cons_drop]
        simp only [show i < steps.length - 1 by omega, not_true_eq_false, ↓reduceIte, hx, hx', hy, hy', Res.ok_bind,
          Res.pure_def, trans_util_Ratio]
        simp only [Bool.and_eq_true, beq_iff_eq, and_comm (a := (i : Int) = 0)]
        by_cases h1 : input.le (ofInt steps[i].1) = true ∧ (i : Int) = 0
        · simp only [h1, and_self, ↓reduceIte]
        · simp only [h1, ↓reduceIte]
          by_cases h2 : input.ge (ofInt steps[i + 1].1) = true
          · simp only [h2, ↓reduceIte]
            refine ⟨⟨i + 1, rfl, hl⟩, by omega, ?_⟩
            rw [Int.toNat_natCast_add_one, show ((i : Int) + 1 == 0) = false by rw [beq_eq_false_iff_ne]; omega]
          · simp only [h2, Bool.false_eq_true, ↓reduceIte]
            by_cases h3 : input.feq (ofInt steps[i].1) = true
            · simp only [h3, ↓reduceIte]
            · simp only [h3, Bool.false_eq_true, ↓reduceIte]
      · rw [List.drop_eq_nil_of_le (by omega)]
        simp only [show steps.length - 1 = i by omega, Nat.lt_irrefl, not_false_eq_true, ↓reduceIte, Res.pure_def,
          interpLoop_single]
    case post =>
      rintro ⟨o, j⟩ hv
      rw [show interp steps input = .ok (interpLoop true steps input) by rw [hsteps]; rfl]
      cases o with
      | some v => exact congrArg Res.ok hv
      | none =>
        simp only [hlen, idx_sortedKeys steps _ (Nat.sub_lt hpos Nat.one_pos), Res.ok_bind, mapGet_getElem steps h]
        exact congrArg Res.ok hv

#print axioms trans2_util_CalculateInterpolatedCurveValue
end Fan2go
