import Fan2go.Props.Trans3A
namespace Fan2go
open F64
namespace B3

variable {σ α β : Type}

theorem run_bind (m : GoM σ α) (f : α → GoM σ β) (s : σ) :
    (m >>= f) s = match m s with
      | (.ok a, s') => f a s'
      | (.err e, s') => (.err e, s')
      | (.panic p, s') => (.panic p, s') := GoM.run_bind m f s
theorem run_pure (a : α) (s : σ) : (pure a : GoM σ α) s = (.ok a, s) := GoM.run_pure a s
theorem deref_some (a : α) (s : σ) : (Go.deref (some a) : GoM σ α) s = (.ok a, s) := GoM.run_deref_some a s
theorem liftRes_run (r : Res α) (s : σ) : (Go.liftRes r : GoM σ α) s = (r, s) := GoM.run_liftRes r s

end B3
open T3A

theorem trans3_ensureNoThirdParty (indef : Int) (curve : Res Int) (now : Int) (w : World) :
    Generated3.ctl_ensureNoThirdPartyIsMessingWithUs indef (modelOps indef curve now) w
      = (match ensureNoThirdParty w with
         | .ok (w', _) => (.ok (), w')
         | .err e => (.err e, w)
         | .panic p => (.panic p, w)) := by
  unfold Generated3.ctl_ensureNoThirdPartyIsMessingWithUs ensureNoThirdParty
  simp only [gom, trans3_findClosestDistinctTarget, trans3_applyPwmMapping]
  cases supports w.fan w.dev .pwmSensor
  · simp
  · cases hl : w.ctl.lastSet with
    | none => simp
    | some l =>
      cases hm : w.ctl.pwmMap with
      | none => simp
      | some m =>
        cases hc : closestDistinct w.ctl l with
        | err _ | panic _ => simp [hl, hc, GoM.run_deref_some]
        | ok k =>
          rcases Res.ok_or_err (fanGetPwm_no_panic w.dev) with ⟨cur, hg⟩ | ⟨e, hg⟩
          · by_cases hq : cur = applyPwmMapping w.ctl k <;> simp [hl, hm, hc, hg, hq, GoM.run_deref_some, goRead]
          · simp [hl, hc, hg, GoM.run_deref_some, goRead]

/-! `calculateTargetPwm` in four stages, each with the rest of the method as a parameter `k`: a stage is run once, on
variables, and not once for every way of reaching it (an assignment under an `if` makes the rest of a `do` block a join
point, which `simp` would copy into each branch). `calc_stages` is where a change of the method in /repo shows. It holds
by `rfl`: a stage is the method's text with the rest of the `do` block named `k`, and the pure `let`s (`minPwm`, the
rescaled `target`), bound before `ensureNoThirdParty…` in the method and written out after it in `calcRescale`, are
unfolded by definitional equality wherever they stand. -/

namespace B3
section
variable {σ : Type} (indef : Int) (ops : Generated3.CtlOps σ)

/-- controller.go:430-445 -/
def calcLast (k : Int → GoM σ (Int × Option String)) : GoM σ (Int × Option String) := do
  if (← ops.get_lastSetPwm) ≠ none then
    k (← Go.deref (← ops.get_lastSetPwm))
  else if (← ops.fan_Supports 0) = true then
    let r ← Generated3.ctl_getPwm indef ops
    if r.2 ≠ none then
      return (-1, r.2)
    k r.1
  else
    k (← ops.fan_GetMinPwm)

/-- controller.go:446-463 -/
def calcCycle (lastSetPwm : Int) (k : Int → GoM σ (Int × Option String)) : GoM σ (Int × Option String) := do
  let r ← ops.curve_Evaluate
  if r.2 ≠ none then
    return (-1, r.2)
  let target ← ops.controlLoop_Cycle r.1 lastSetPwm
  if target > 255 then k 255 else if target < 0 then k 0 else k target

/-- controller.go:464-475 -/
def calcRescale (target : Int) (k : Int → Int → Int → GoM σ (Int × Option String)) :
    GoM σ (Int × Option String) := do
  let maxPwm ← ops.fan_GetMaxPwm
  let minPwm := (← ops.fan_GetMinPwm) + (← ops.get_minPwmOffset)
  Generated3.ctl_ensureNoThirdPartyIsMessingWithUs indef ops
  k (minPwm + F64.toInt indef (F64.ofInt target / F64.ofInt 255 * (F64.ofInt maxPwm - F64.ofInt minPwm))) maxPwm minPwm

/-- controller.go:476-501; the method keeps `minPwm` for a log message only -/
def calcStall (target maxPwm _minPwm : Int) : GoM σ (Int × Option String) := do
  if (← ops.fan_Supports 1) = true then
    let neverStop ← ops.fan_ShouldNeverStop
    let same ← (do
      if (← ops.get_lastSetPwm) ≠ none then pure (decide ((← Go.deref (← ops.get_lastSetPwm)) = target))
      else pure false)
    if neverStop = true ∧ decide (same = true) = true then
      if F64.toInt indef (← ops.fan_GetRpmAvg) ≤ 0 then
        if target ≥ maxPwm then
          return (-1, some "stalled-at-max")
        Generated3.ctl_increaseMinPwmOffset indef ops
        ops.fan_SetRpmAvg (F64.ofInt 1)
        return (target + 1, none)
  return (target, none)

theorem calc_stages : Generated3.ctl_calculateTargetPwm indef ops =
    calcLast indef ops fun l => calcCycle ops l fun t => calcRescale indef ops t (calcStall indef ops) := rfl
end

variable (indef : Int) (curve : Res Int) (now : Int) (w : World)

/-- how a stage ends on the Go side: go on with the value, or return `-1` and the error, or panic -/
def orReturn {α : Type} (r : Res α) (w : World) (k : α → Res (Int × Option String) × World) :
    Res (Int × Option String) × World :=
  match r with
  | .ok a => k a
  | .err e => (.ok (-1, some e), w)
  | .panic p => (.panic p, w)

def orStop {α : Type} (r : Res α) (w : World) (k : α → World × Res Int × List Obs) : World × Res Int × List Obs :=
  match r with
  | .ok a => k a
  | .err e => (w, .err e, [])
  | .panic p => (w, .panic p, [])

/-- the outcome of the translated method against the model's: the same world, and Go's pair for the model's result -/
def Tied (g : Res (Int × Option String) × World) (m : World × Res Int × List Obs) : Prop :=
  g = goRead (-1) m.2.1 m.1

theorem Tied.eq {g : Res (Int × Option String) × World} {m : World × Res Int × List Obs} (h : Tied g m) :
    g = goRead (-1) m.2.1 m.1 := h

theorem Tied.stage {α : Type} (r : Res α) {k : α → Res (Int × Option String) × World}
    {m : α → World × Res Int × List Obs} (h : ∀ a, Tied (k a) (m a)) : Tied (orReturn r w k) (orStop r w m) := by
  cases r with
  | ok a => exact h a
  | err e => rfl
  | panic p => rfl

theorem calculateTargetPwm_stages : calculateTargetPwm indef w curve now =
    orStop (lastSetR w) w fun l =>
    orStop curve w fun cv =>
    orStop (ensureNoThirdParty (withLoop w (w.ctl.loop.cycle indef cv l now).1))
        (withLoop w (w.ctl.loop.cycle indef cv l now).1) fun r =>
    stallBranch indef w r.1 r.2 (computedTarget indef w cv l now) := by
  -- not `rfl`: a `match` of `calc_eq` and the `match` of `orStop` are different auxiliary definitions, equal only
  -- once their scrutinee is a constructor
  rw [calc_eq]
  unfold orStop
  cases lastSetR w <;> cases curve <;> dsimp only <;> first | rfl | (cases ensureNoThirdParty _ <;> rfl)

theorem calcLast_eq (k : Int → GoM World (Int × Option String)) :
    calcLast indef (modelOps indef curve now) k w = orReturn (lastSetR w) w (k · w) := by
  unfold calcLast orReturn lastSetR
  simp only [gom, getPwm_eq]
  cases w.ctl.lastSet with
  | some v => simp [GoM.run_deref_some]
  | none =>
    cases supports w.fan w.dev .pwmSensor with
    | false => simp
    | true => cases ctlGetPwm w <;> simp [goRead]

theorem calcCycle_eq (l : Int) (k : Int → GoM World (Int × Option String)) :
    calcCycle (modelOps indef curve now) l k w =
      orReturn curve w fun cv =>
        k (clamp255 (w.ctl.loop.cycle indef cv l now).2) (withLoop w (w.ctl.loop.cycle indef cv l now).1) := by
  unfold calcCycle clamp255 orReturn withLoop
  cases curve with
  | ok cv =>
    simp only [gom, goRead, ne_eq, not_true_eq_false, ↓reduceIte]
    split
    · rfl
    · split <;> rfl
  | err _ | panic _ => simp [gom, goRead]

theorem calcRescale_eq (t : Int) (k : Int → Int → Int → GoM World (Int × Option String)) :
    calcRescale indef (modelOps indef curve now) t k w =
      orReturn (ensureNoThirdParty w) w fun r =>
        k (rescale indef t (w.fan.getMin + w.ctl.offset) w.fan.getMax) w.fan.getMax (w.fan.getMin + w.ctl.offset) r.1 := by
  unfold calcRescale rescale orReturn
  simp only [gom, trans3_ensureNoThirdParty]
  cases he : ensureNoThirdParty w with
  | ok r => rfl
  | err e => exact absurd he (ensure_ne_err _ _)
  | panic p => rfl

theorem calcStall_eq (t mx mn : Int) :
    calcStall indef (modelOps indef curve now) t mx mn w =
      if stalled indef w t = true then
        if t ≥ mx then (.ok (-1, some "stalled-at-max"), w) else (.ok (t + 1, none), raiseWorld indef w)
      else (.ok (t, none), w) := by
  unfold calcStall stalled raiseWorld
  simp only [gom, trans3_increaseMinPwmOffset]
  cases supports w.fan w.dev .rpmSensor
  · simp
  cases w.fan.neverStop
  · cases w.ctl.lastSet <;> simp [GoM.run_deref_some]
  cases hl : w.ctl.lastSet with
  | none => simp
  | some v =>
    by_cases h1 : v = t <;> by_cases h2 : toInt indef w.fan.getRpmAvg ≤ 0 <;> simp [h1, h2, hl, GoM.run_deref_some]

theorem calculateTargetPwm_tied :
    Tied (Generated3.ctl_calculateTargetPwm indef (modelOps indef curve now) w) (calculateTargetPwm indef w curve now) := by
  rw [calc_stages, calculateTargetPwm_stages, calcLast_eq]
  refine Tied.stage _ _ fun l => ?_
  rw [calcCycle_eq]
  refine Tied.stage _ _ fun cv => ?_
  rw [calcRescale_eq]
  refine Tied.stage _ _ fun r => ?_
  -- `withLoop` leaves the fan and the offset alone: the target and the limit are the ones `stallBranch` is given
  show Tied (calcStall indef _ (computedTarget indef w cv l now) w.fan.getMax _ r.1) _
  rw [calcStall_eq]
  unfold Tied stallBranch
  split
  · split <;> rfl
  · rfl

end B3
open B3

theorem trans3_calculateTargetPwm (indef : Int) (curve : Res Int) (now : Int) (w : World) :
    ∃ res, Generated3.ctl_calculateTargetPwm indef (modelOps indef curve now) w
        = (res, (calculateTargetPwm indef w curve now).1)
      ∧ (match (calculateTargetPwm indef w curve now).2.1 with
         | .panic p => res = .panic p
         | r => ∃ g, res = .ok g ∧ Agrees g r) := by
  rw [(calculateTargetPwm_tied indef curve now w).eq]
  exact goRead_agrees _ _ _

theorem trans3_setPwm (indef : Int) (curve : Res Int) (now : Int) (w : World) (target : Int) :
    Generated3.ctl_setPwm indef (modelOps indef curve now) target w
      = (match (ctlSetPwm w target).2.1 with
         | .panic p => (.panic p, (ctlSetPwm w target).1)
         | r => (.ok (t3ErrOf r), (ctlSetPwm w target).1)) := by
  unfold Generated3.ctl_setPwm ctlSetPwm
  simp only [gom, trans3_findClosestDistinctTarget, trans3_applyPwmMapping]
  cases hc : closestDistinct w.ctl target with
  | err e => exact absurd hc (findClosest_ne_err _ _ _)
  | panic p => rfl
  | ok k =>
    -- the write does not panic: its outcome first, then the cases in which the method reaches it or returns before
    rcases fanSetPwm_cases w.dev (applyPwmMapping w.ctl k) with hw | ⟨e, hw⟩
    all_goals
      cases hs : supports w.fan w.dev .pwmSensor
      · simp [hs, hw, t3ErrOf]
      · rcases Res.ok_or_err (fanGetPwm_no_panic w.dev) with ⟨cur, hg⟩ | ⟨e', hg⟩
        · by_cases hq : applyPwmMapping w.ctl k = cur <;> simp [hs, hg, goRead, hq, hw, t3ErrOf]
        · simp [hs, hg, goRead, hw, t3ErrOf]

theorem trans3_UpdateFanSpeed (indef : Int) (curve : Res Int) (now : Int) (w : World) :
    Generated3.ctl_UpdateFanSpeed indef (modelOps indef curve now) w
      = (match (updateFanSpeed indef w curve now).2.1 with
         | .panic p => (.panic p, (updateFanSpeed indef w curve now).1)
         | r => (.ok (t3ErrOf r), (updateFanSpeed indef w curve now).1)) := by
  unfold Generated3.ctl_UpdateFanSpeed updateFanSpeed
  simp only [gom, (calculateTargetPwm_tied indef curve now w).eq, trans3_trySetManualPwm, trans3_setPwm]
  rcases calculateTargetPwm indef w curve now with ⟨w1, r, o⟩
  cases r with
  | panic p => rfl
  | err e => rfl
  | ok t =>
    simp only [goRead, ne_eq, not_true_eq_false, ↓reduceIte]
    generalize ctlSetPwm _ t = cs
    rcases cs with ⟨w3, r3, o3⟩
    cases r3 <;> rfl

#print axioms trans3_ensureNoThirdParty
#print axioms trans3_calculateTargetPwm
#print axioms trans3_setPwm
#print axioms trans3_UpdateFanSpeed

end Fan2go
