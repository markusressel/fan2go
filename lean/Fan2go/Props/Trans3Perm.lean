/-
  The permission check in front of every external command (C18): `Generated3.util_CheckFilePermissionsForExecution`,
  regenerated from internal/util/file.go on every run, computes on the record `permOps` what the model's `checkPerm`
  (Model/Perm.lean) computes, for every outcome of `filepath.EvalSymlinks` and `os.Stat` and every stat record.
-/
import Fan2go.Generated.Trans3
import Fan2go.Model.Perm
import Fan2go.Props.GoMRun
import Fan2go.Props.GoSemLemmas
namespace Fan2go

/-- the operations of `CheckFilePermissionsForExecution` over the model's view of the file system: `ev` is the outcome of
    `filepath.EvalSymlinks`, `st` that of `os.Stat` on the RESOLVED path. Reading a field of `info` when `os.Stat` failed is
    a nil dereference; since fix fc39d65 of /repo the method returns before it gets there. -/
def permOps (ev : EvalRes) (st : StatRes) : Generated3.PermOps Unit where
  evalSymlinks := fun p s => (.ok (p, match ev with | .err => some "evalsymlinks" | .resolved => none), s)
  stat := fun _ s => (.ok (match st with | .notExist => some "notexist" | .otherErr => some "stat" | .ok _ => none), s)
  info_Mode := fun s => (match st with | .ok r => .ok (r.mode : Int) | _ => .panic "nil-deref", s)
  get_stat_Uid := fun s => (match st with | .ok r => .ok (r.uid : Int) | _ => .panic "nil-deref", s)
  get_stat_Gid := fun s => (match st with | .ok r => .ok (r.gid : Int) | _ => .panic "nil-deref", s)

/-- Go's `(bool, error)` for the model's outcome -/
def permPair : Except String Unit → Bool × Option String
  | .ok () => (true, none)
  | .error m => (false, some m)

def permOutGo : PermOut → Res (Bool × Option String)
  | .ok r => .ok (permPair r)
  | .err e => .err e
  | .panic p => .panic p

namespace T3P
variable (ev : EvalRes) (st : StatRes) (s : Unit)
theorem p_eval (p : String) : (permOps ev st).evalSymlinks p s
    = (.ok (p, match ev with | .err => some "evalsymlinks" | .resolved => none), s) := rfl
theorem p_stat (p : String) : (permOps ev st).stat p s
    = (.ok (match st with | .notExist => some "notexist" | .otherErr => some "stat" | .ok _ => none), s) := rfl
theorem p_mode : (permOps ev st).info_Mode s
    = (match st with | .ok r => .ok (r.mode : Int) | _ => .panic "nil-deref", s) := rfl
theorem p_uid : (permOps ev st).get_stat_Uid s
    = (match st with | .ok r => .ok (r.uid : Int) | _ => .panic "nil-deref", s) := rfl
theorem p_gid : (permOps ev st).get_stat_Gid s
    = (match st with | .ok r => .ok (r.gid : Int) | _ => .panic "nil-deref", s) := rfl

attribute [gom] p_eval p_stat p_mode p_uid p_gid
end T3P

theorem trans3_util_CheckFilePermissionsForExecution (indef : Int) (ev : EvalRes) (st : StatRes) (p : String) :
    (Generated3.util_CheckFilePermissionsForExecution indef (permOps ev st) p ()).1 = permOutGo (checkPerm ev st) := by
  unfold Generated3.util_CheckFilePermissionsForExecution checkPerm
  simp only [gom]
  cases ev with
  | err => cases st <;> simp [gom, permOutGo, permPair]
  | resolved =>
    cases st with
    | notExist | otherErr => simp [gom, permOutGo, permPair]
    | ok r =>
      -- `16` and `2`: the write bits of the group (`0o020`) and of the others (`0o002`)
      have h16 : Go.land (r.mode : Int) 16 = ((r.mode &&& 16 : Nat) : Int) := Go.land_nat r.mode 16
      have h2 : Go.land (r.mode : Int) 2 = ((r.mode &&& 2 : Nat) : Int) := Go.land_nat r.mode 2
      by_cases hu : r.uid = 0 <;> by_cases hg : r.gid = 0 <;> by_cases hm : r.mode &&& 16 = 0 <;>
        by_cases ho : r.mode &&& 2 = 0 <;> simp [hu, hg, hm, ho, h16, h2, gom, permOutGo, permPair]
end Fan2go
