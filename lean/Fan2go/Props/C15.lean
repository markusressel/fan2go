/-
  C15  Stored characterisation is reused; fans are analysed once
       (internal/controller/controller.go `Run` … first tick, `RunInitializationSequence`,
        `computePwmMap(Locked)`, cmd/fan/reset.go, cmd/fan/init.go)

  All theorems are about the executable model `Fan2go.Startup` (Model/Startup.lean): one fan
  declaration `d` (kind, RPM sensor?, PWM readable?, configured pwmMap?, minPwm+maxPwm configured?,
  measurement I/O ok?), the two database entries of its id (`Store`), and the operations
  `start` (a fresh process: `Run` up to the first regulation cycle), `reset` (`fan2go fan reset`) and
  `init` (`fan2go fan init`). `(start d st).acts` lists every step that touches the fan or the
  database; `sweep` and `measure` are the two analysis actions. The model is tied to the Go code by the
  `su` correspondence stream (go/harness/startup.go runs the REAL `Run` on virtual devices with a real
  bbolt file and classifies the PWM writes it observes before the first curve evaluation;
  Driver/StartupStream.lean prints the same line from the model) and by `fact_cli_bodies`
  (Props/Facts.lean: the bodies of reset.go / init.go re-stated in the harness).

  ASSUMED: database operations succeed and behave like a map per bucket (C14); a fan keeps its
  declaration over a history; between two operations the store does not change (the regulation loop never
  writes it).

  FINDING kept as a refuted statement: the README promise about minPwm+maxPwm (`C15_minmax_refuted`).
-/
import Fan2go.Proofs.Startup
namespace Fan2go
open Startup

/-- With `pwmMap:` configured no operation ever sweeps the fan, whatever is stored; the controller of a
    start that reaches regulation, and of every `fan init`, works with the configured map. -/
theorem C15_override_no_sweep (d : FanDecl) (st : Store) (h : d.cfgMap = true) :
    (start d st).swept = false ∧ ((start d st).ok = true → (start d st).ctl = some .override) ∧
    (init d st).swept = false ∧ (init d st).ctl = some .override :=
  ⟨(start_override d st h).1, fun _ => (start_override d st h).2, init_override d st h⟩

/-- … over whole histories: no entry of any trace contains a sweep -/
theorem C15_override_no_sweep_history (d : FanDecl) (st : Store) (ops : List Op) (h : d.cfgMap = true) :
    ∀ e ∈ trace d st ops, e.2.2.swept = false := by
  intro e he
  rw [trace_entry d ops st e he]
  cases e.2.1 with
  | start => exact (start_override d e.1 h).1
  | reset => rfl
  | init => exact (init_override d e.1 h).1

example : (start { cfgMap := true } {}).acts.contains .sweep = false ∧ (start { cfgMap := true } {}).ok = true := by decide

/-- Both entries stored and no configured map: the start goes straight to regulation with the stored
    data – it loads the RPM curve, attaches it, takes the stored map – performs neither sweep nor
    measurement and leaves the database as it was. -/
theorem C15_reuse (d : FanDecl) (st : Store)
    (hr : st.rpm = true) (hm : st.map.isSome = true) (hc : d.cfgMap = false) :
    (start d st).acts = [.loadRpmOk, .loadRpmOk, .attach, .useStored, .regulate] ∧
    (start d st).swept = false ∧ (start d st).measured = false ∧
    (start d st).store = st ∧ (start d st).ctl = st.map ∧ (start d st).ok = true := by
  -- two `.loadRpmOk`: `Run` calls `LoadFanPwmData` once to decide whether to initialise and once more to attach
  obtain ⟨ha, hs⟩ := start_reuse d st hr (.inr hm)
  obtain ⟨m, hm⟩ := Option.isSome_iff_exists.mp hm
  simp [ha, hs, start_spec, mapAfter, hr, hm, hc]

/-- The first start of a hwmon fan with an RPM sensor on an empty database measures the fan, reaches
    regulation and leaves both entries stored … -/
theorem C15_first_start_stores (d : FanDecl)
    (hk : d.kind = .hwmon) (hr : d.hasRpm = true) (hd : d.devOk = true) :
    let o := start d {}
    o.ok = true ∧ o.measured = true ∧ o.store.rpm = true ∧ o.store.map.isSome = true := by
  simp [start_spec, hk, hr, hd]

/-- … so that the second start is analysis-free and changes nothing. -/
theorem C15_second_start_reuses (d : FanDecl)
    (hk : d.kind = .hwmon) (hr : d.hasRpm = true) (hd : d.devOk = true) :
    let st1 := (start d {}).store
    (start d st1).analysed = false ∧ (start d st1).store = st1 ∧ (start d st1).ok = true := by
  have hok := (C15_first_start_stores d hk hr hd).1
  exact ⟨settled_of_start_ok d {} hok, ok_start_fixed d {} hok⟩

example : (start {} {}).swept = true ∧ (start {} {}).measured = true ∧
    (start {} (start {} {}).store).acts = [.loadRpmOk, .loadRpmOk, .attach, .useStored, .regulate] := by decide

/-- Over ANY sequence of start / reset / init on one fan, from any database state: a `start` puts the
    fan through an analysis (sweep or RPM-curve measurement) only if at that moment one of its two
    entries was missing. -/
theorem C15_history (d : FanDecl) (st : Store) (ops : List Op) :
    ∀ e ∈ trace d st ops, e.2.1 = Op.start → e.2.2.analysed = true → e.1.missing = true := by
  intro e he hop han
  rw [trace_entry d ops st e he, hop] at han
  exact start_analysed_missing d e.1 han

/-- Equivalently: after a `start` that reached regulation or a `fan init` that succeeded (at any point
    `pre` of any history), every later `start` with only `start`s in between – i.e. until the user
    discards the data with `fan reset` or `fan init` – is analysis-free. -/
theorem C15_history_settled (d : FanDecl) (st : Store) (pre mid : List Op) (op : Op)
    (hop : op = Op.start ∨ op = Op.init)
    (hok : (step d (runStore d st pre) op).ok = true)
    (hmid : ∀ o ∈ mid, o = Op.start) :
    (start d (runStore d st (pre ++ op :: mid))).analysed = false := by
  rw [runStore_append]
  simp only [runStore]
  apply settled_after_starts d mid hmid
  rcases hop with h | h <;> subst h
  · exact settled_of_start_ok d _ hok
  · exact settled_of_init_ok d _ hok

/-- the `analysed` flags along a history (hwmon with sensor): only the first start, the start after a
    `reset`, and `init` itself analyse -/
example : let d : FanDecl := {}
    (trace d {} [.start, .start, .start, .reset, .start, .start, .init, .start]).map (fun e => e.2.2.analysed)
      = [true, false, false, false, true, false, true, false] := by decide

/-- "until the user discards it" is not vacuous: after `fan reset` the next start analyses again
    (sweep unless a map is configured; measurement for a hwmon fan with RPM sensor), whatever was stored. -/
theorem C15_reset_clears (d : FanDecl) (st : Store) :
    (start d (reset d st).store).swept = (!d.cfgMap && d.pwmRead) ∧
    (start d (reset d st).store).measured = (d.kind == .hwmon && d.hasRpm) := by
  simp [start_spec, reset]

/-- `fan init` itself analyses whatever was stored (it deletes both entries first) -/
theorem C15_init_analyses (d : FanDecl) (st : Store) :
    (init d st).swept = (!d.cfgMap && d.pwmRead) ∧ (init d st).measured = d.hasRpm :=
  ⟨(init_spec d st).1, (init_spec d st).2.1⟩

example : (start {} (reset {} (start {} {}).store).store).analysed = true := by decide

/-- A file (or cmd) fan without configured map is swept on its first start – never measured: its RPM
    curve is built in and simply saved – and not again afterwards. -/
theorem C15_file_first_start_sweeps_once (d : FanDecl)
    (hk : d.kind ≠ .hwmon) (hc : d.cfgMap = false) (hp : d.pwmRead = true) :
    let o := start d {}
    o.ok = true ∧ o.swept = true ∧ o.measured = false ∧
    (start d o.store).analysed = false ∧ (start d o.store).store = o.store := by
  have hok : (start d {}).ok = true := by simp [start_spec, hk]
  exact ⟨hok, by simp [start_spec, hc, hp], by simp [start_spec, hk], settled_of_start_ok d {} hok,
    (ok_start_fixed d {} hok).1⟩

example : (start { kind := .file } {}).acts =
    [.loadRpmFail, .saveRpm, .loadRpmOk, .attach, .sweep, .saveMap, .regulate] := by decide

/-- README: "use the `minPwm` and `maxPwm` fan config options to set the boundaries yourself. That way the
    initialization phase will be skipped": a fan with both configured is never put through the RPM-curve
    measurement. -/
def C15_minmax_statement : Prop :=
  ∀ (d : FanDecl) (st : Store), d.minMax = true → (start d st).measured = false

/-- The code does not keep that promise: nothing on the start-up path reads the two options. The first
    start of a hwmon fan with RPM sensor, both options configured and nothing stored measures the curve. -/
theorem C15_minmax_refuted : ¬ C15_minmax_statement := by
  intro h
  have := h { kind := .hwmon, hasRpm := true, minMax := true } {} rfl
  revert this
  decide

/-- What does hold: once RPM data are stored the fan is not measured again by any start (with or without
    the two options). -/
theorem C15_minmax_partial (d : FanDecl) (st : Store) (hr : st.rpm = true) :
    (start d st).measured = false := by
  rw [start_measured_eq, hr]; rfl

/-- a hwmon fan without RPM sensor: the initialisation stores no RPM data, the second load fails,
    `Run` returns the error (after restoring the fan) – on every start -/
theorem C15_hwmon_without_rpm_never_starts (d : FanDecl) (st : Store)
    (hk : d.kind = .hwmon) (hr : d.hasRpm = false) (hs : st.rpm = false) :
    (start d st).ok = false ∧ (start d st).store.rpm = false :=
  by simp [start_spec, hk, hr, hs]

#print axioms C15_override_no_sweep
#print axioms C15_override_no_sweep_history
#print axioms C15_reuse
#print axioms C15_first_start_stores
#print axioms C15_second_start_reuses
#print axioms C15_history
#print axioms C15_history_settled
#print axioms C15_reset_clears
#print axioms C15_init_analyses
#print axioms C15_file_first_start_sweeps_once
#print axioms C15_minmax_refuted
#print axioms C15_minmax_partial
#print axioms C15_hwmon_without_rpm_never_starts

end Fan2go
