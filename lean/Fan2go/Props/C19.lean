/-
  C19 "External commands cannot hang or crash fan2go".

  Model: `safeCmdExecution` (= util.SafeCmdExecution, internal/util/exec.go) over the abstract process
  behaviour `Beh`; callers `cmdUserValue` / `cmdUserSet` (sensors/cmd.go, fans/cmd.go). Tied to the real code by
  stream `ex` (`ex.run`, `ex.user`: real scripts, real processes, wall clock).

  Verdict of the proofs: the property HOLDS at full strength (`C19_holds`) for every state of the executable
  file, every behaviour of the command and every timeout, with no side hypothesis.

  It holds of the code since three fixes in /repo; each defect was replayed on the real code by the stream op named:
  * 8c639fb, start error (`ex.run beh=notexec|badformat|vanish`; `ex.perm owner=0 group=0 mode=644 link=0`):
    unchecked `err.(*exec.ExitError)` on a `*fs.PathError` gave `res=panic:typeassert`; since then `res=err`
    (`C19_start_error_is_error`).
  * 4d252cb, `cmd.WaitDelay` (200 ms) and no success after the deadline:
    - grandchild holding stdout (`ex.run beh=grandchild timeout_ms=300`): `Output()` waited for the pipe,
      `res=blocked within=0`; since then `res=err within=1`, exec.ErrWaitDelay (`C19_grandchild_is_bounded`);
    - plain `sleep 30` as last line of a `/bin/sh` script (`ex.run beh=sleep timeout_ms=200`): shell killed, the
      orphaned `sleep` holds the pipe, `res=blocked within=0`; since then `res=err within=1` after
      timeout + 200 ms (`C19_shell_sleep_is_bounded`);
    - pipe released after the deadline (`ex.run beh=grandchild timeout_ms=300 hold_ms=1300`): returned
      `("", nil)` late, `res=ok:0: within=0`; since then `res=err within=1`, exec.ErrWaitDelay once more: the
      call is over long before the release (`C19_late_release_is_error`).
  * fc39d65, `os.Stat` failing with an error other than not-exist (file swapped for a symlink loop between
    `EvalSymlinks` and `Stat`): nil `FileInfo` dereferenced, a panic; since then an error
    (`C19_stat_error_is_error`).
-/
import Fan2go.Proofs.Exec
namespace Fan2go

/-- the "small margin" of the property statement, in ms: the value by which stream `ex` sets its `within`
    flag (go/harness/exec.go: `elapsed <= timeout+500*time.Millisecond`) -/
def c19MarginMs : Nat := 500

theorem cmdWaitDelay_le_margin : cmdWaitDelayMs ≤ c19MarginMs := by decide

/-- The conclusion of C19 for one call: the result is an error or the command's trimmed output,
    it is not a panic, and the call is bounded by `timeout + margin`. -/
def C19_ok (beh : Beh) (timeout : Nat) (o : ExecOut) : Prop :=
  ((∃ e, o.res = .ok (.error e)) ∨ (∃ out, beh.stdout = some out ∧ o.res = .ok (.ok (trimNl out))))
  ∧ o.res.isPanic = false
  ∧ ∃ b, o.boundedBy = some b ∧ b ≤ timeout + c19MarginMs

/-- **C19 at full strength**: for every state of the executable file, every behaviour of the command –
    cannot be started, any exit code, killed, ignores the deadline, leaves descendants holding its output
    for any time or for ever – and every timeout. -/
def C19_statement : Prop :=
  ∀ (ev : EvalRes) (st : StatRes) (beh : Beh) (timeout : Nat),
    C19_ok beh timeout (safeCmdExecution ev st beh timeout)

/-- a root-owned 0755 executable: passes the permission check -/
def c19GoodFile : StatRes := .ok ⟨0, 0, 0o755⟩

theorem safeCmdExecution_goodFile (beh : Beh) (t : Nat) :
    safeCmdExecution .resolved c19GoodFile beh t = runCmd beh t := rfl

/-- the same with the sharp bound `timeout + cmdWaitDelay` (200 ms) instead of the margin -/
theorem C19_holds_tight (ev : EvalRes) (st : StatRes) (beh : Beh) (timeout : Nat) :
    ((∃ e, (safeCmdExecution ev st beh timeout).res = .ok (.error e)) ∨
      (∃ out, beh.stdout = some out ∧ (safeCmdExecution ev st beh timeout).res = .ok (.ok (trimNl out))))
    ∧ (safeCmdExecution ev st beh timeout).res.isPanic = false
    ∧ ∃ b, (safeCmdExecution ev st beh timeout).boundedBy = some b ∧ b ≤ timeout + cmdWaitDelayMs := by
  unfold safeCmdExecution
  rcases checkPerm_cases ev st with ⟨hp, -⟩ | ⟨e, he⟩
  · rw [hp]
    exact (runCmd_spec beh timeout).2
  · rw [he]
    exact ⟨Or.inl ⟨_, rfl⟩, rfl, 0, rfl, Nat.zero_le _⟩

/-- **C19 holds**: `C19_holds_tight` with the margin of the property statement in place of the sharp bound. -/
theorem C19_holds : C19_statement := by
  intro ev st beh timeout
  obtain ⟨h1, h2, b, hb, hle⟩ := C19_holds_tight ev st beh timeout
  exact ⟨h1, h2, b, hb, Nat.le_trans hle (Nat.add_le_add_left cmdWaitDelay_le_margin _)⟩

/-- **`os.Stat` fails with something else than not-exist** (the file was swapped for a symlink loop between
    `EvalSymlinks` and `Stat`): the error is returned, nothing is run. Before /repo commit fc39d65 `info` was nil
    and `info.Sys()` panicked (replayed on the real code by a rename race: panic after 137 calls). -/
theorem C19_stat_error_is_error (beh : Beh) (t : Nat) :
    safeCmdExecution .resolved .otherErr beh t
      = { res := .ok (.error "cannot execute: stat"), attempted := false, ran := false, boundedBy := some 0 } :=
  rfl

/-- a command that cannot be started gives an error, at once, nothing is run (a panic before 8c639fb) -/
theorem C19_start_error_is_error :
    safeCmdExecution .resolved c19GoodFile .startError 2000
      = { res := .ok (.error "fork/exec"), attempted := true, ran := false, boundedBy := some 0 } := rfl

/-- a grandchild holding stdout for ever costs `cmdWaitDelay`, whatever the timeout (before 4d252cb the call
    blocked as long as the pipe was held) -/
theorem C19_grandchild_is_bounded (t : Nat) (ht : t ≠ 0) :
    (safeCmdExecution .resolved c19GoodFile (.grandchildHoldsStdout "hi\n" .forever) t).boundedBy
      = some cmdWaitDelayMs := by
  simp [safeCmdExecution_goodFile, runCmd, ht]

/-- the orphaned `sleep 30` of a killed shell costs `timeout + cmdWaitDelay` (before 4d252cb: the 30 s) -/
theorem C19_shell_sleep_is_bounded :
    (safeCmdExecution .resolved c19GoodFile (.outlivesDeadline (some (.ms 30000))) 2000).boundedBy = some 2200 := by
  decide

/-- a holder that lets go only after the deadline: the call has ended at `cmdWaitDelay` with exec.ErrWaitDelay,
    the leaf of `C19_holder_past_waitdelay_is_error` (before 4d252cb: `("", nil)` after the release, the
    output silently dropped) -/
theorem C19_late_release_is_error :
    (safeCmdExecution .resolved c19GoodFile (.grandchildHoldsStdout "hi\n" (.ms 4000)) 2000).res
      = .ok (.error "exec: WaitDelay expired before I/O complete") := rfl

/-- the price of the bound: a command that exits 0 but leaves a holder of its stdout for `cmdWaitDelay` or
    longer is reported as an ERROR even when everything happens well before the deadline
    (real code: `ex.run beh=grandchild timeout_ms=1000 hold_ms=500` → `res=err within=1`, whereas
    `hold_ms=100` → `res=ok:2:6869 within=1`) -/
theorem C19_holder_past_waitdelay_is_error (out : String) (h t : Nat) (ht : t ≠ 0) (hh : cmdWaitDelayMs ≤ h) :
    ∃ e, (safeCmdExecution .resolved c19GoodFile (.grandchildHoldsStdout out (.ms h)) t).res = .ok (.error e) := by
  exact ⟨"exec: WaitDelay expired before I/O complete",
    by simp [safeCmdExecution_goodFile, runCmd, ht, Nat.not_lt.mpr hh]⟩

/-- a panic inside `SafeCmdExecution` would not be recovered by any caller (it would reach the sensor
    monitor / the fan controller goroutine) – which is why `C19_callers_never_panic` matters. (Before
    8c639fb: `ex.user kind=sensor beh=notexec` → `res=panic:typeassert`; since then `res=err`.) -/
theorem C19_panic_reaches_callers {α : Type} (parse : String → Option α) (o : ExecOut) (site : String)
    (h : o.res = .panic site) :
    cmdUserValue parse o = .panic site ∧ cmdUserSet o = .panic site := by
  simp [cmdUserValue, cmdUserSet, h]

/-- callers turn every non-panicking outcome into a value or an error -/
theorem C19_callers_total {α : Type} (parse : String → Option α) (o : ExecOut)
    (h : o.res.isPanic = false) (h' : ∀ e, o.res ≠ .err e) :
    (∃ v, cmdUserValue parse o = .ok (.ok v)) ∨ (∃ e, cmdUserValue parse o = .ok (.error e)) := by
  unfold cmdUserValue
  match hr : o.res with
  | .ok (.ok s) =>
    cases hp : parse s with
    | some v => exact Or.inl ⟨v, by simp [hp]⟩
    | none => exact Or.inr ⟨"parse", by simp [hp]⟩
  | .ok (.error e) => exact Or.inr ⟨e, rfl⟩
  | .err e => exact absurd hr (h' e)
  | .panic s => rw [hr] at h; simp [Res.isPanic] at h

/-- **Callers never see a panic**, for ANY behaviour of the command and any timeout: `GetValue` /
    `GetPwm` / `GetRpm` return a value or an error, `SetPwm` succeeds or returns an error. -/
theorem C19_callers_never_panic {α : Type} (parse : String → Option α)
    (ev : EvalRes) (st : StatRes) (beh : Beh) (timeout : Nat) :
    ((∃ v, cmdUserValue parse (safeCmdExecution ev st beh timeout) = .ok (.ok v)) ∨
      (∃ e, cmdUserValue parse (safeCmdExecution ev st beh timeout) = .ok (.error e))) ∧
    (cmdUserSet (safeCmdExecution ev st beh timeout) = .ok (.ok ()) ∨
      (∃ e, cmdUserSet (safeCmdExecution ev st beh timeout) = .ok (.error e))) := by
  rcases (C19_holds_tight ev st beh timeout).1 with ⟨e, h⟩ | ⟨out, -, h⟩
  · exact ⟨.inr ⟨e, by rw [cmdUserValue, h]⟩, .inr ⟨e, by rw [cmdUserSet, h]⟩⟩
  · refine ⟨?_, .inl (by rw [cmdUserSet, h])⟩
    rw [cmdUserValue, h]
    dsimp only
    cases parse (trimNl out)
    · exact .inr ⟨_, rfl⟩
    · exact .inl ⟨_, rfl⟩

/-- **C19, trim.** A returned text is the command's stdout with leading/trailing `'\n'` removed. -/
theorem C19_trim (ev : EvalRes) (st : StatRes) (beh : Beh) (timeout : Nat) (s : String)
    (h : (safeCmdExecution ev st beh timeout).res = .ok (.ok s)) :
    ∃ out, beh.stdout = some out ∧ s = trimNl out := by
  rcases (C19_holds_tight ev st beh timeout).1 with ⟨e, he⟩ | ⟨out, ho, hr⟩
  · rw [he] at h; simp at h
  · rw [hr] at h
    exact ⟨out, ho, by simpa using h.symm⟩

theorem C19_trim_idem (s : String) : trimNl (trimNl s) = trimNl s := by
  unfold trimNl
  simp [trimNlChars_idem]

/-- Trim removes newlines at the two ends only: the input is `newlines ++ Trim input ++ newlines`,
    and the result neither starts nor ends with a newline. -/
theorem C19_trim_spec (s : String) :
    (∃ pre post, (∀ c ∈ pre, c = '\n') ∧ (∀ c ∈ post, c = '\n') ∧
        s.toList = pre ++ (trimNl s).toList ++ post) ∧
    (trimNl s).toList.head? ≠ some '\n' ∧ (trimNl s).toList.getLast? ≠ some '\n' := by
  rw [trimNl_toList]
  exact ⟨trimNlChars_split _, trimNlChars_head _, trimNlChars_last _⟩

/-- inner newlines (and every other character, blanks and tabs included) survive: a text that neither
    starts nor ends with `'\n'` is returned as is, whatever is in between -/
theorem C19_trim_inner (a b : Char) (mid : List Char) (ha : a ≠ '\n') (hb : b ≠ '\n') :
    trimNlChars (a :: (mid ++ [b])) = a :: (mid ++ [b]) := by
  apply trimNlChars_fixed
  · simpa using ha
  · rw [← List.cons_append, List.getLast?_append]
    simpa using hb

/-- and Trim is the ONLY such decomposition -/
theorem C19_trim_unique {pre m post : List Char}
    (hpre : ∀ c ∈ pre, c = '\n') (hpost : ∀ c ∈ post, c = '\n')
    (hhead : m.head? ≠ some '\n') (hlast : m.getLast? ≠ some '\n') :
    trimNlChars (pre ++ m ++ post) = m := trimNlChars_unique hpre hpost hhead hlast

example : C19_ok (.exits 0 "42\n") 2000 (safeCmdExecution .resolved c19GoodFile (.exits 0 "42\n") 2000) :=
  C19_holds _ _ _ _

example : C19_ok .startError 2000 (safeCmdExecution .resolved .otherErr .startError 2000) := C19_holds _ _ _ _

example : (safeCmdExecution .resolved c19GoodFile (.exits 0 "\n\n abc\n\nx y\t\n\n") 2000).res
    = .ok (.ok " abc\n\nx y\t") := by decide +kernel

example : (safeCmdExecution .resolved c19GoodFile (.exits 3 "55\n") 2000).res = .ok (.error "exit status") := by
  decide +kernel

example : (safeCmdExecution .resolved c19GoodFile (.outlivesDeadline none) 200)
    = { res := .ok (.error "signal: killed"), attempted := true, ran := true, boundedBy := some 200 } := by
  decide +kernel

/-- a holder that lets go quickly is harmless: the text is returned -/
example : (safeCmdExecution .resolved c19GoodFile (.grandchildHoldsStdout "hi\n" (.ms 100)) 1000)
    = { res := .ok (.ok "hi"), attempted := true, ran := true, boundedBy := some 100 } := by decide +kernel

/-- an expired context starts nothing, not even a command that could not be started -/
example : (safeCmdExecution .resolved c19GoodFile .startError 0).res = .ok (.error "context deadline exceeded") := by
  decide +kernel

example : trimNl "\n\n" = "" ∧ trimNl "" = "" ∧ trimNl "7\n" = "7" ∧ trimNl "a\nb" = "a\nb" := by decide +kernel

#print axioms C19_holds
#print axioms C19_holds_tight
#print axioms C19_stat_error_is_error
#print axioms C19_start_error_is_error
#print axioms C19_grandchild_is_bounded
#print axioms C19_shell_sleep_is_bounded
#print axioms C19_late_release_is_error
#print axioms C19_holder_past_waitdelay_is_error
#print axioms C19_panic_reaches_callers
#print axioms C19_callers_total
#print axioms C19_callers_never_panic
#print axioms C19_trim
#print axioms C19_trim_idem
#print axioms C19_trim_spec
#print axioms C19_trim_inner
#print axioms C19_trim_unique

end Fan2go
