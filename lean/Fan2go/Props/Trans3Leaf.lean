import Fan2go.Props.Trans3LeafOps
import Fan2go.Props.Trans2Interp
import Fan2go.Props.GoMRun
namespace Fan2go
open F64

namespace T3L

theorem run_bind {σ α β : Type} (m : GoM σ α) (f : α → GoM σ β) (s : σ) :
    (m >>= f) s = match m s with
      | (.ok a, s') => f a s'
      | (.err e, s') => (.err e, s')
      | (.panic p, s') => (.panic p, s') := GoM.run_bind m f s
theorem run_pure {σ α : Type} (a : α) (s : σ) : (pure a : GoM σ α) s = (.ok a, s) := GoM.run_pure a s
theorem run_liftRes {σ α : Type} (r : Res α) (s : σ) : (Go.liftRes r : GoM σ α) s = (r, s) := GoM.run_liftRes r s
theorem run_deref_some {σ α : Type} (a : α) (s : σ) : (Go.deref (some a) : GoM σ α) s = (.ok a, s) :=
  GoM.run_deref_some a s

end T3L
open T3L

variable (indef : Int)

namespace T3L
theorem pid_now (w : PidW) : pidOps.now w = (.ok w.now, w) := rfl
theorem pid_get_p (w : PidW) : pidOps.get_p w = (.ok w.st.p, w) := rfl
theorem pid_get_i (w : PidW) : pidOps.get_i w = (.ok w.st.i, w) := rfl
theorem pid_get_d (w : PidW) : pidOps.get_d w = (.ok w.st.d, w) := rfl
theorem pid_get_error (w : PidW) : pidOps.get_error w = (.ok w.st.error, w) := rfl
theorem pid_set_error (v : F64) (w : PidW) :
    pidOps.set_error v w = (.ok (), { w with st := { w.st with error := v } }) := rfl
theorem pid_get_integral (w : PidW) : pidOps.get_integral w = (.ok w.st.integral, w) := rfl
theorem pid_set_integral (v : F64) (w : PidW) :
    pidOps.set_integral v w = (.ok (), { w with st := { w.st with integral := v } }) := rfl
theorem pid_get_lastTime (w : PidW) : pidOps.get_lastTime w = (.ok w.st.lastTime, w) := rfl
theorem pid_set_lastTime (v : Option Int) (w : PidW) :
    pidOps.set_lastTime v w = (.ok (), { w with st := { w.st with lastTime := v } }) := rfl
attribute [gom] pid_now pid_get_p pid_get_i pid_get_d pid_get_error pid_set_error pid_get_integral
  pid_set_integral pid_get_lastTime pid_set_lastTime
end T3L

theorem trans3_PidLoop_Loop (w : PidW) (target measured : F64) :
    Generated3.PidLoop_Loop indef pidOps target measured w
      = (.ok (pidLoop w.st target measured w.now).2, { w with st := (pidLoop w.st target measured w.now).1 }) := by
  unfold Generated3.PidLoop_Loop pidLoop
  simp only [gom]
  cases w.st.lastTime with
  | none => simp only [gom, Go.ofInt_zero, if_true]
  | some last => simp [gom]

namespace T3L
theorem sn_readInt (p : String) (w : SensorW) :
    sensorOps.readIntFromFile p w
      = (match w.io with | .readOk n => (.ok (n, none), w) | _ => (.ok (-1, some "read"), w)) := rfl
theorem sn_exec (e : String) (a : Array String) (t : Int) (w : SensorW) :
    sensorOps.safeCmdExecution e a t w
      = (match w.io with
         | .execErr => (.ok ("", some "exec"), w)
         | _ => (.ok ("<output>", none), w)) := rfl
theorem sn_parse (x : String) (b : Int) (w : SensorW) :
    sensorOps.parseFloat x b w
      = (match w.io with | .parsed v => (.ok (v, none), w) | _ => (.ok (F64.ofInt 0, some "parse"), w)) := rfl
theorem sn_expandHome (p : String) (w : SensorW) : sensorOps.expandHome p w = (.ok (p, none), w) := rfl
theorem sn_get_Input (w : SensorW) : sensorOps.get_Input w = (.ok "input", w) := rfl
theorem sn_get_Path (w : SensorW) : sensorOps.get_Config_File_Path w = (.ok "path", w) := rfl
theorem sn_get_Exec (w : SensorW) : sensorOps.get_Config_Cmd_Exec w = (.ok "exec", w) := rfl
theorem sn_get_Args (w : SensorW) : sensorOps.get_Config_Cmd_Args w = (.ok #[], w) := rfl
theorem sn_get_avg (w : SensorW) : sensorOps.get_MovingAvg w = (.ok w.avg, w) := rfl
theorem sn_set_avg (v : F64) (w : SensorW) : sensorOps.set_MovingAvg v w = (.ok (), { w with avg := v }) := rfl
attribute [gom] sn_readInt sn_exec sn_parse sn_expandHome sn_get_Input sn_get_Path sn_get_Exec sn_get_Args
  sn_get_avg sn_set_avg
end T3L

theorem trans3_HwmonSensor_GetValue (w : SensorW) :
    Generated3.HwmonSensor_GetValue indef sensorOps w = goReadF (sensorGetValue .hwmon w.io) w := by
  unfold Generated3.HwmonSensor_GetValue sensorGetValue goReadF
  simp only [gom]
  cases w.io <;> simp [gom]

theorem trans3_FileSensor_GetValue (w : SensorW) :
    Generated3.FileSensor_GetValue indef sensorOps w = goReadF (sensorGetValue .file w.io) w := by
  unfold Generated3.FileSensor_GetValue sensorGetValue goReadF
  simp only [gom]
  cases w.io <;> simp [gom]

theorem trans3_CmdSensor_GetValue (w : SensorW) :
    Generated3.CmdSensor_GetValue indef sensorOps w = goReadF (sensorGetValue .cmd w.io) w := by
  unfold Generated3.CmdSensor_GetValue sensorGetValue goReadF
  simp only [gom]
  cases h : w.io with
  | parsed v => cases v <;> simp [gom, h, F64.isNaN, F64.isFinite]
  | _ => simp [gom, h]

theorem trans3_Sensor_MovingAvg (w : SensorW) (x : F64) :
    Generated3.HwmonSensor_GetMovingAvg indef sensorOps w = (.ok w.avg, w)
    ∧ Generated3.FileSensor_GetMovingAvg indef sensorOps w = (.ok w.avg, w)
    ∧ Generated3.CmdSensor_GetMovingAvg indef sensorOps w = (.ok w.avg, w)
    ∧ Generated3.HwmonSensor_SetMovingAvg indef sensorOps x w = (.ok (), { w with avg := x })
    ∧ Generated3.FileSensor_SetMovingAvg indef sensorOps x w = (.ok (), { w with avg := x })
    ∧ Generated3.CmdSensor_SetMovingAvg indef sensorOps x w = (.ok (), { w with avg := x }) := by
  unfold Generated3.HwmonSensor_GetMovingAvg Generated3.FileSensor_GetMovingAvg Generated3.CmdSensor_GetMovingAvg
    Generated3.HwmonSensor_SetMovingAvg Generated3.FileSensor_SetMovingAvg Generated3.CmdSensor_SetMovingAvg
  simp only [gom, and_self]

namespace T3L
theorem mo_GetValue (w : MonitorW) : monitorOps.s_GetValue w = goReadF (sensorGetValue w.kind w.io) w := rfl
theorem mo_GetAvg (w : MonitorW) : monitorOps.s_GetMovingAvg w = (.ok w.avg, w) := rfl
theorem mo_SetAvg (v : F64) (w : MonitorW) : monitorOps.s_SetMovingAvg v w = (.ok (), { w with avg := v }) := rfl
theorem mo_window (w : MonitorW) : monitorOps.get_cfg_TempRollingWindowSize w = (.ok w.n, w) := rfl
attribute [gom] mo_GetValue mo_GetAvg mo_SetAvg mo_window

theorem sensorGetValue_no_panic (k : SensorKind) (io : SensorIo) (p : String) : sensorGetValue k io ≠ .panic p := by
  cases k <;> cases io
  case cmd.parsed v => show (if v.isFinite then Res.ok v else .err "non-finite") ≠ _; split <;> nofun
  all_goals nofun
end T3L

theorem trans3_updateSensor (w : MonitorW) :
    Generated3.internal_updateSensor indef monitorOps w
      = (.ok (t3ErrOf (updateSensor w.n w.avg w.kind w.io).2), { w with avg := (updateSensor w.n w.avg w.kind w.io).1 }) := by
  unfold Generated3.internal_updateSensor updateSensor
  simp only [gom, goReadF]
  cases h : sensorGetValue w.kind w.io with
  | panic p => exact absurd h (sensorGetValue_no_panic _ _ _)
  | _ => simp [gom, t3ErrOf, trans_util_UpdateSimpleMovingAvg]

namespace T3L
theorem cv_GetAvg (w : CurveW) : (curveOps indef).sensor_GetMovingAvg w = (.ok w.sv.avg, w) := rfl
theorem cv_GetValue (w : CurveW) : (curveOps indef).sensor_GetValue w = goReadF w.sv.value w := rfl
theorem cv_Loop (t m : F64) (w : CurveW) :
    (curveOps indef).pidLoop_Loop t m w
      = (.ok (pidLoop w.pid t m w.now).2, { w with pid := (pidLoop w.pid t m w.now).1 }) := rfl
theorem cv_Steps (w : CurveW) : (curveOps indef).get_Config_Linear_Steps w = (.ok w.steps, w) := rfl
theorem cv_Min (w : CurveW) : (curveOps indef).get_Config_Linear_Min w = (.ok w.mn, w) := rfl
theorem cv_Max (w : CurveW) : (curveOps indef).get_Config_Linear_Max w = (.ok w.mx, w) := rfl
theorem cv_SetPoint (w : CurveW) : (curveOps indef).get_Config_PID_SetPoint w = (.ok w.setPoint, w) := rfl
theorem cv_get_Value (w : CurveW) : (curveOps indef).get_Value w = (.ok w.value, w) := rfl
theorem cv_set_Value (v : Int) (w : CurveW) : (curveOps indef).set_Value v w = (.ok (), { w with value := v }) := rfl
attribute [gom] cv_GetAvg cv_GetValue cv_Loop cv_Steps cv_Min cv_Max cv_SetPoint cv_get_Value cv_set_Value
end T3L

theorem trans3_LinearSpeedCurve_Evaluate (w : CurveW) (hs : ∀ st, w.steps = some st → SortedMap st) :
    Generated3.LinearSpeedCurve_Evaluate indef (curveOps indef) w
      = (match modelLinear indef w with
         | .ok v => (.ok (v, none), { w with value := v })
         | .err e => (.err e, w)
         | .panic p => (.panic p, w)) := by
  unfold Generated3.LinearSpeedCurve_Evaluate Generated3.LinearSpeedCurve_SetValue modelLinear
  simp only [gom]
  cases h : w.steps with
  | none =>
    simp only [gom, ne_eq, not_true_eq_false, if_false, linMinMax]
    by_cases h1 : w.sv.avg.ge (ofInt w.mx * ofInt 1000) = true
    · simp [gom, h1]
    · by_cases h2 : w.sv.avg.le (ofInt w.mn * ofInt 1000) = true
      · simp [gom, h1, h2]
      · simp [gom, h1, h2]
  | some st =>
    have := trans2_util_CalculateInterpolatedCurveValue indef st "linear" (w.sv.avg / F64.ofInt 1000) (hs st h)
    simp only [gom, ne_eq, reduceCtorEq, not_false_eq_true, if_true, Go.mapOf, Option.getD_some, this, linSteps]
    cases interp st (w.sv.avg / F64.ofInt 1000) <;>
      simp [gom, h, Res.ok_bind, Res.err_bind, Res.panic_bind, Res.pure_def]

theorem trans3_PidSpeedCurve_Evaluate (w : CurveW) :
    Generated3.PidSpeedCurve_Evaluate indef (curveOps indef) w
      = (match w.sv.value with
         | .ok measured =>
           let (st', loopValue) := pidLoop w.pid w.setPoint (measured / ofRat 1000) w.now
           let v := toInt indef (coerce loopValue (ofInt 0) (ofInt 1) * ofInt 255)
           (.ok (v, none), { w with value := v, pid := st' })
         | .err e => (.ok (w.value, some e), w)
         | .panic p => (.panic p, w)) := by
  unfold Generated3.PidSpeedCurve_Evaluate Generated3.PidSpeedCurve_SetValue
  simp only [gom, goReadF]
  cases w.sv.value <;> simp [gom, trans_util_Coerce, show F64.ofInt 1000 = ofRat 1000 from rfl]

end Fan2go

#print axioms Fan2go.trans3_LinearSpeedCurve_Evaluate
#print axioms Fan2go.trans3_PidSpeedCurve_Evaluate
#print axioms Fan2go.trans3_PidLoop_Loop
#print axioms Fan2go.trans3_HwmonSensor_GetValue
#print axioms Fan2go.trans3_FileSensor_GetValue
#print axioms Fan2go.trans3_CmdSensor_GetValue
#print axioms Fan2go.trans3_Sensor_MovingAvg
#print axioms Fan2go.trans3_updateSensor
