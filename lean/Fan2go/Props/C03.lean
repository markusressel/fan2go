/-
  C03 — Stopping regulation hands the fan back or leaves it at full speed.

  Part (i): the sequential logic of `restorePwmEnabled` (controller.go:399-419) with
  `HwMonFan.SetPwmEnabled` (hwmon.go:166-179) under every fault combination of the device model
  (`Dev.pwmWrite`, `Dev.modeWrite` ∈ applied / refused / ignored, `Dev.modeRead` ∈ ok / errPerm / errOther,
  arbitrary response `Dev.resp`), every original mode and PWM, every fan kind. Objects:
  `restorePwmEnabled`, `setPwmEnabled`, `updateFanSpeed` in Model/Controller.lean, `fanSetPwm` in
  Model/Fan.lean, predicate `Restored` in Spec/Controller.lean.

  Part (ii): the daemon life cycle as a transition system over schedules (Model/Lifecycle.lean = backend.go
  `RunDaemon`, oklog/run `Group.Run`, controller.go `Run`), fixed semantics (the code in /repo now) and old
  semantics (before commits 19c718c / 5c3af56).

  Part (ii'): one controller on its own (`CRun`: the controller's moves and the cancellation of its context) —
  the statement correspondence stream `lc` samples on the REAL `Run(ctx)` (go/harness/lifecycle.go vs
  Driver/LifecycleStream.lean), proved for every stop point and every continuation, and shown to be the
  per-controller slice of the daemon model of part (ii).
-/
import Fan2go.Proofs.ControllerCases
import Fan2go.Proofs.Lifecycle
namespace Fan2go

/-- C03 (i). If PWM writes reach the register, the register accepts 255, and the mode read-back is
    not blind (it works, or it fails in a way `SetPwmEnabled` notices), then after `restorePwmEnabled`
    the fan is in its original non-manual mode or at PWM 255 — for every original mode and PWM, every
    fan kind with or without `pwmN_enable`, and whether the mode write is applied, refused or ignored
    (`w.dev.modeWrite` is unconstrained). -/
theorem C03_restore (w : World) (hpw : w.dev.pwmWrite = .applied)
    (h255 : w.dev.resp.apply 255 = 255)
    (hmr : w.dev.modeRead = .ok ∨ ∃ v, w.dev.modeRead = .errOther v ∧ v ≠ w.ctl.origMode) :
    Restored (restorePwmEnabled w).1 := by
  rcases restore_cases w with ⟨d2, hs, hsup, hne, hok, hw⟩ | ⟨d2, hs, hw⟩ <;> rw [hw]
  · refine .inl ⟨by rw [hs.supports]; exact hsup, hne, ?_⟩
    rcases hok with ⟨-, h⟩ | h | h
    · exact h
    · rcases hmr with h' | ⟨v, h', -⟩ <;> rw [h'] at h <;> cases h
    · rcases hmr with h' | ⟨v, h', hv⟩ <;> rw [h'] at h <;> cases h
      exact absurd rfl hv
  · right
    rw [fanSetPwm_applied (hs.pwmWrite.trans hpw), hs.resp]; exact h255

/-- non-vacuity of `C03_restore`, the hard case: original mode 2, the driver silently ignores the
    mode write; the read-back notices ("PWM mode stuck") and the fan ends at 255. -/
example : ∃ w : World, w.dev.pwmWrite = .applied ∧ w.dev.resp.apply 255 = 255 ∧ w.dev.modeRead = .ok ∧
    w.dev.modeWrite = .ignored ∧ w.ctl.origMode = 2 ∧ w.dev.mode = 1 ∧ w.dev.pwm = 80 ∧
    (restorePwmEnabled w).1.dev.mode = 1 ∧ (restorePwmEnabled w).1.dev.pwm = 255 :=
  ⟨{ fan := { kind := .hwmon }, dev := { pwm := 80, mode := 1, modeWrite := .ignored },
     ctl := { origMode := 2, origPwm := 60 } }, by decide⟩

/-- C03 (i). With a cooperative driver the fan is handed back: it ends in the ORIGINAL mode with the
    original PWM written, and `restorePwmEnabled` makes no PWM-255 write (other than the original PWM
    itself being 255). -/
theorem C03_restore_original_mode (w : World) (hk : w.fan.kind = .hwmon) (hm : w.dev.hasMode = true)
    (hne : w.ctl.origMode ≠ 1) (hmw : w.dev.modeWrite = .applied) (hmr : w.dev.modeRead = .ok) :
    (restorePwmEnabled w).1.dev.mode = w.ctl.origMode ∧
    (restorePwmEnabled w).1.dev.pwm = (fanSetPwm w.dev w.ctl.origPwm).1.pwm ∧
    (∀ b, Obs.wrotePwm 255 b ∈ (restorePwmEnabled w).2 → w.ctl.origPwm = 255) := by
  have f1 := fanSetPwm_switches w.dev w.ctl.origPwm
  have hsp := setPwmEnabled_applied (f := w.fan) (d := (fanSetPwm w.dev w.ctl.origPwm).1) w.ctl.origMode hk
    (by rw [f1.modeWrite]; exact hmw) (by rw [f1.modeRead]; exact hmr)
  rw [restore_handed_back (by simp [supports, hk, hm]) hne hsp]
  refine ⟨rfl, rfl, fun b hb => ?_⟩
  -- of the two writes observed only the first is a PWM write: that of the original PWM
  rcases List.mem_cons.1 hb with hb | hb
  · injection hb with h; exact h.symm
  · cases List.mem_singleton.1 hb

example : ∃ w : World, w.fan.kind = .hwmon ∧ w.dev.hasMode = true ∧ w.ctl.origMode = 2 ∧
    w.dev.modeWrite = .applied ∧ w.dev.modeRead = .ok ∧ w.dev.mode = 1 ∧
    (restorePwmEnabled w).1.dev.mode = 2 ∧ (restorePwmEnabled w).1.dev.pwm = 60 :=
  ⟨{ fan := { kind := .hwmon }, dev := { pwm := 80, mode := 1 }, ctl := { origMode := 2, origPwm := 60 } },
    by decide⟩

/-- C03 (i), tightness: the PWM-write hypothesis cannot be dropped. When the PWM writes are refused
    (or silently ignored) and the mode write is ignored, the fan stays in manual mode at its reduced
    speed — every write is lost, no implementation could do better. -/
theorem C03_restore_tight :
    ∃ w : World, w.dev.pwmWrite = .refused ∧ w.dev.modeWrite = .ignored ∧ w.dev.modeRead = .ok ∧
      w.dev.resp.apply 255 = 255 ∧ ¬ Restored (restorePwmEnabled w).1 ∧
      (restorePwmEnabled w).1.dev.mode = 1 ∧ (restorePwmEnabled w).1.dev.pwm = 80 :=
  ⟨{ fan := { kind := .hwmon }, dev := { pwm := 80, mode := 1, pwmWrite := .refused, modeWrite := .ignored },
     ctl := { origMode := 2, origPwm := 60 } }, by unfold Restored; decide⟩

theorem C03_restore_tight_ignored :
    ∃ w : World, w.dev.pwmWrite = .ignored ∧ w.dev.modeWrite = .ignored ∧ w.dev.modeRead = .ok ∧
      w.dev.resp.apply 255 = 255 ∧ ¬ Restored (restorePwmEnabled w).1 :=
  ⟨{ fan := { kind := .hwmon }, dev := { pwm := 80, mode := 1, pwmWrite := .ignored, modeWrite := .ignored },
     ctl := { origMode := 2, origPwm := 60 } }, by unfold Restored; decide⟩

/-- C03 (i), the residual case the code knowingly accepts: `pwmN_enable` can be written but not read
    (permission error on the read-back: "Continuing assuming it worked"). If the write was silently
    ignored, `SetPwmEnabled` returns nil, no PWM-255 write follows, and the fan stays in manual mode at
    the original PWM. -/
theorem C03_restore_perm_blind :
    ∃ w : World, w.dev.pwmWrite = .applied ∧ w.dev.resp.apply 255 = 255 ∧ w.dev.modeRead = .errPerm ∧
      w.dev.modeWrite = .ignored ∧ ¬ Restored (restorePwmEnabled w).1 ∧
      (restorePwmEnabled w).1.dev.mode = 1 ∧ (restorePwmEnabled w).1.dev.pwm = 60 :=
  ⟨{ fan := { kind := .hwmon }, dev := { pwm := 80, mode := 1, modeRead := .errPerm, modeWrite := .ignored },
     ctl := { origMode := 2, origPwm := 60 } }, by unfold Restored; decide⟩

/-- C03 (i), second residual case: the read-back fails with a non-permission error
    and the value `ReadIntFromFile` returns beside the error (−1 for an unreadable or empty file) equals
    the requested mode — which happens when the ORIGINAL mode was captured from the same failing read
    (`originalPwmEnabled = −1`). The "stuck" test `currentValue != value` is then false, `SetPwmEnabled`
    returns the outer nil error, and no PWM-255 write follows. So the third hypothesis of `C03_restore`
    cannot be weakened to "the read-back does not fail with a permission error". -/
theorem C03_restore_read_blind :
    ∃ w : World, w.dev.pwmWrite = .applied ∧ w.dev.resp.apply 255 = 255 ∧
      w.dev.modeRead = .errOther w.ctl.origMode ∧ w.ctl.origMode = -1 ∧
      w.dev.modeWrite = .ignored ∧ ¬ Restored (restorePwmEnabled w).1 ∧
      (restorePwmEnabled w).1.dev.mode = 1 ∧ (restorePwmEnabled w).1.dev.pwm = 60 :=
  ⟨{ fan := { kind := .hwmon }, dev := { pwm := 80, mode := 1, modeRead := .errOther (-1), modeWrite := .ignored },
     ctl := { origMode := -1, origPwm := 60 } }, by unfold Restored; decide⟩

/-- C03 (i). A fatal control error (e.g. a never-stop fan stalled at maximum PWM) leaves everything the
    restore path depends on as it was: `UpdateFanSpeed` returns an error only out of
    `calculateTargetPwm`, which does not touch the device or the values captured at start-up. Hence the
    restore that follows (`Run`, `case <-tick.C`, controller.go:227-231) succeeds under the same hypotheses. -/
theorem C03_stalled_then_restore (indef : Int) (w w' : World) (curve : Res Int) (now : Int) (e : String)
    (obs : List Obs) (h : updateFanSpeed indef w curve now = (w', .err e, obs))
    (hpw : w.dev.pwmWrite = .applied) (h255 : w.dev.resp.apply 255 = 255)
    (hmr : w.dev.modeRead = .ok ∨ ∃ v, w.dev.modeRead = .errOther v ∧ v ≠ w.ctl.origMode) :
    w'.dev = w.dev ∧ w'.ctl.origMode = w.ctl.origMode ∧ w'.ctl.origPwm = w.ctl.origPwm ∧
    w'.fan.kind = w.fan.kind ∧ Restored (restorePwmEnabled w').1 := by
  have hk : CalcFrame w w' := by
    have := ufs_err_frame (e := e) (by rw [h])
    rwa [h] at this
  exact ⟨hk.dev, hk.origMode, hk.origPwm, hk.fan.kind,
    C03_restore w' (by rw [hk.dev]; exact hpw) (by rw [hk.dev]; exact h255) (by rw [hk.dev, hk.origMode]; exact hmr)⟩

/-- the world of the stall example: never-stop hwmon fan, last request 255 (= maximum), RPM average 0,
    in manual mode at 255; the original mode was 2 (automatic), the original PWM 120. -/
def C03_stalled : World :=
  { fan := { kind := .hwmon, neverStop := true },
    dev := { pwm := 255, mode := 1 },
    ctl := { lastSet := some 255, pwmMap := some [(0, 0), (128, 128), (255, 255)],
             distinct := #[0, 128, 255], origMode := 2, origPwm := 120 } }

/-- non-vacuity of `C03_stalled_then_restore`: the cycle fails with "stalled at max", and the restore
    that follows hands the fan back (mode 2, PWM 120). -/
example : (updateFanSpeed 0 C03_stalled (.ok 255) 0).2.1 = .err "stalled-at-max" ∧
    Obs.stalledAtMax ∈ (updateFanSpeed 0 C03_stalled (.ok 255) 0).2.2 ∧
    (restorePwmEnabled (updateFanSpeed 0 C03_stalled (.ok 255) 0).1).1.dev.mode = 2 ∧
    (restorePwmEnabled (updateFanSpeed 0 C03_stalled (.ok 255) 0).1).1.dev.pwm = 120 := by
  decide +kernel

open Lifecycle

/-- C03 (ii). With the code that is in /repo now, no schedule — any number of controllers, any number of
    signals at any moment, any controller or sensor-monitor error at any moment — ever brings the process
    into the `panicked` state, and the signal channel is never closed: a signal that finds the buffer full
    is dropped, every other signal is buffered (absorbed). -/
theorem C03_lifecycle_no_crash (rpms : List Bool) (sched : List Choice) :
    (lrun .fixed (linit rpms) sched).proc ≠ .panicked ∧
    (lrun .fixed (linit rpms) sched).chanClosed = false :=
  let g := ginv_reach rpms sched
  ⟨g.alive, g.open_⟩

/-- the start-up of a controller that finds its data in the database, up to the control loop's `select`:
    read the originals, start-up wait, load, second load + attach, 1 s head start -/
def C03_toTicking (i : Nat) : List Choice :=
  [.ctl i .advance, .ctl i .advance, .ctl i .advance, .ctl i .advance, .ctl i .advance]

/-- The statement above is not vacuous: under the OLD semantics (interrupt closes the registered
    channel; actor panics on a `Run` error) `panicked` is reachable with a fan under manual control and
    not restored — (1) by a second signal during shutdown, (2) by another controller's start-up error. -/
theorem C03_old_semantics_crashes :
    (∃ rpms sched, (lrun .old (linit rpms) sched).proc = .panicked ∧
      ∃ c ∈ (lrun .old (linit rpms) sched).ctls, c.touched = true ∧ c.restored = false) ∧
    (∃ rpms sched, Choice.signal ∉ sched ∧ (lrun .old (linit rpms) sched).proc = .panicked ∧
      ∃ c ∈ (lrun .old (linit rpms) sched).ctls, c.touched = true ∧ c.restored = false) :=
  ⟨⟨[true], C03_toTicking 0 ++ [.ctl 0 .tick, .signal, .sigActor, .interrupt, .signal], by decide⟩,
   ⟨[true, true], C03_toTicking 0 ++ [.ctl 0 .tick, .ctl 1 .fail], by decide⟩⟩

/-- the same two schedules under the fixed semantics end with the process exited and the fan restored -/
example :
    (lrun .fixed (linit [true]) (C03_toTicking 0 ++ [.ctl 0 .tick,
        .signal, .sigActor, .interrupt, .signal, .signal,
        .ctl 0 .seeCancel, .signal, .ctl 0 .advance, .ctl 0 .advance, .exit])).proc = .exited 0 ∧
    (lrun .fixed (linit [true, true]) (C03_toTicking 0 ++ [.ctl 0 .tick,
        .ctl 1 .fail, .interrupt, .sigActor, .ctl 0 .tick, .ctl 0 .seeCancel, .ctl 0 .advance,
        .ctl 0 .advance, .exit])).proc = .exited 1 ∧
    (lrun .fixed (linit [true, true]) (C03_toTicking 0 ++ [.ctl 0 .tick,
        .ctl 1 .fail, .interrupt, .sigActor, .ctl 0 .tick, .ctl 0 .seeCancel, .ctl 0 .advance,
        .ctl 0 .advance, .exit])).ctls.map (fun c => (c.regulated, c.touched, c.restored, c.regsRestored)) =
      [(true, true, true, true), (false, false, false, false)] := by
  decide

/-- C03 (ii). Whenever the process has exited — on any schedule — every controller's `Run` has returned
    and every controller whose regulation had begun has restored its fan. -/
theorem C03_lifecycle_restores (rpms : List Bool) (sched : List Choice) (code : Nat)
    (h : (lrun .fixed (linit rpms) sched).proc = .exited code) :
    ∀ c ∈ (lrun .fixed (linit rpms) sched).ctls,
      c.phase = .exited ∧ (c.regulated = true → c.restored = true) :=
  fun _ hc => have r := (ginv_reach rpms sched).restored h hc; ⟨r.1, r.2.1⟩

/-- C03 (ii), the same for "touched": a fan that this process has written to at all (also during the
    start-up analysis: PWM-map sweep, RPM-curve measurement) is restored when the process has exited, and
    its registers show it: original non-manual mode, or PWM 255. No exception is left: the error returns
    after the initialisation sequence restore too (commit c9f18fa). -/
theorem C03_lifecycle_touched (rpms : List Bool) (sched : List Choice) (code : Nat)
    (h : (lrun .fixed (linit rpms) sched).proc = .exited code) :
    ∀ c ∈ (lrun .fixed (linit rpms) sched).ctls,
      c.touched = true → c.restored = true ∧ c.regsRestored = true :=
  fun _ hc => ((ginv_reach rpms sched).restored h hc).2.2

/-- C03 (ii). The start-up gap is closed (before /repo commit c9f18fa the `postInitError` exit returned
    without a restore): a controller whose `Run` returned through the `initFail` or the `postInitError`
    exit — `RunInitializationSequence`, the second `LoadFanPwmData` or `AttachFanRpmCurveData` failed,
    possibly after the fan had been put under manual control and swept — has called
    `restorePwmEnabled`, on every schedule. Two return sites have no restore of their own: `done` (the
    control loop has restored before it) and `runError`; so only a `runError` return can leave
    `restored = false`, and it leaves the fan untouched. -/
theorem C03_lifecycle_init_gap_closed (rpms : List Bool) (sched : List Choice) :
    ∀ c ∈ (lrun .fixed (linit rpms) sched).ctls, c.phase = .exited →
      ((c.reason = some .initFail ∨ c.reason = some .postInitError) → c.restored = true ∧ c.regsRestored = true) ∧
      (c.restored = false → c.reason = some .runError ∧ c.touched = false) := by
  intro c hc hph
  have hi := (ginv_reach rpms sched).ctls c hc
  obtain ⟨-, -, h3, h4, -⟩ := cinv_exited hi hph
  refine ⟨fun hr => ?_, h4⟩
  have : c.restored = true := by
    cases hres : c.restored with
    | true => rfl
    | false => rcases hr with hr | hr <;> simp [(h4 hres).1] at hr
  exact ⟨this, h3 this⟩

/-- non-vacuity, on the schedule that left the fan unrestored before c9f18fa: no stored data, PWM-map
    sweep, no RPM input, the second `LoadFanPwmData` fails — `Run` returns the error with the fan restored;
    exit status 1 -/
example :
    (lrun .fixed (linit [false]) [.ctl 0 .advance, .ctl 0 .advance, .ctl 0 .needInit, .ctl 0 .needSweep,
        .ctl 0 (.write 255), .ctl 0 (.write 0), .ctl 0 .advance, .ctl 0 .fail,
        .interrupt, .sigActor, .exit]).proc = .exited 1 ∧
    (lrun .fixed (linit [false]) [.ctl 0 .advance, .ctl 0 .advance, .ctl 0 .needInit, .ctl 0 .needSweep,
        .ctl 0 (.write 255), .ctl 0 (.write 0), .ctl 0 .advance, .ctl 0 .fail,
        .interrupt, .sigActor, .exit]).ctls.map
      (fun c => (c.reason, c.touched, c.restored, c.mode, c.pwm)) =
      [(some .postInitError, true, true, 2, 0)] := by
  decide

/-- C03 (ii). Before the initialisation sequence / the control loop starts, the fan is untouched, on
    every schedule (signals during the start-up wait included). -/
theorem C03_lifecycle_untouched_before_start (rpms : List Bool) (sched : List Choice) :
    ∀ c ∈ (lrun .fixed (linit rpms) sched).ctls,
      c.phase = .readOrig ∨ c.phase = .startupWait ∨ c.phase = .loadOrInit ∨ c.phase = .initializing →
      c.touched = false ∧ c.restored = false := by
  intro c hc hph
  have hi := (ginv_reach rpms sched).ctls c hc
  rcases hph with h | h | h | h <;> simp [cinv, h] at hi <;> exact ⟨hi.1.1, hi.2⟩

/-- C03 (ii), progress (enabledness). In any state with the process running and `ctx` cancelled, a
    controller in `ticking` can move to `restoring`; a controller in `restoring` can (always) call
    `restorePwmEnabled` and move to `joining` with `restored = true`; a controller in `joining` can return.
    None of these moves waits for any other actor, so shutdown cannot deadlock. -/
theorem C03_lifecycle_progress (s : LState) (i : Nat) (c : CState) (hp : s.proc = .running)
    (hcan : s.cancelled = true) (hi : s.ctls[i]? = some c) :
    (c.phase = .ticking →
      (lstep .fixed s (.ctl i .seeCancel)).ctls[i]? = some { c with phase := .restoring }) ∧
    (c.phase = .restoring →
      (lstep .fixed s (.ctl i .advance)).ctls[i]? = some { c.restore with phase := .joining } ∧
      c.restore.restored = true) ∧
    (c.phase = .joining →
      (lstep .fixed s (.ctl i .advance)).ctls[i]? = some { c with phase := .exited, reason := some .done }) :=
  ⟨fun h => lstep_ctl_getElem? hp hi (CStep.cstep_eq h (.seeCancel hcan)),
   fun h => ⟨lstep_ctl_getElem? hp hi (CStep.cstep_eq h .restore), (restore_fields c).2.1⟩,
   fun h => lstep_ctl_getElem? hp hi (CStep.cstep_eq h (.join (by simp [hcan])))⟩

/-- C03 (ii), progress (no circling). Every enabled move of a controller either brings it strictly closer
    to `exited` or is one more write of the start-up analysis / one more control cycle in the same phase;
    and once `ctx` is cancelled a move of the first kind is enabled in every phase but `exited`. -/
theorem C03_lifecycle_no_circling (b : Bool) (c c' : CState) (a : CAct) (ev : CEv)
    (hs : cstep b c a = some (c', ev)) :
    (rank c'.phase < rank c.phase ∨ (c'.phase = c.phase ∧ ((∃ v, a = .write v) ∨ (∃ v, a = .tick v)))) ∧
    (c.phase ≠ .exited → ∃ a₁ c₁ ev₁, cstep true c a₁ = some (c₁, ev₁) ∧ rank c₁.phase < rank c.phase) :=
  ⟨cstep_rank hs, fun h => ⟨_, cstep_next c h⟩⟩

/-- C03 (ii), progress (no deadlock, global form). From every reachable state in which the process is
    still running, one more signal suffices: there is a continuation of the schedule on which the process
    exits — and then, by `C03_lifecycle_restores`, with every regulated fan restored. -/
theorem C03_lifecycle_can_exit (rpms : List Bool) (sched : List Choice)
    (hp : (lrun .fixed (linit rpms) sched).proc = .running) :
    ∃ more code, (lrun .fixed (linit rpms) (sched ++ .signal :: more)).proc = .exited code := by
  have g := ginv_reach rpms sched
  obtain ⟨hr, -⟩ := signal_ready g hp
  obtain ⟨more, code, hfin⟩ := ready_can_exit _ hr
  refine ⟨[.sigActor, .interrupt] ++ more, code, ?_⟩
  rw [lrun_append]
  show (lrun .fixed (lrun .fixed (linit rpms) sched) ([.signal, .sigActor, .interrupt] ++ more)).proc = _
  rw [lrun_append]
  exact hfin

/-- non-vacuity of the progress statements: a reachable running state with `ctx` cancelled and
    controller 0 in `ticking`, controller 1 (no RPM input) still in its start-up wait. -/
example : (lrun .fixed (linit [true, false]) (C03_toTicking 0 ++ [.ctl 0 .tick,
      .ctl 1 .advance, .signal, .sigActor, .interrupt])).proc = .running ∧
    (lrun .fixed (linit [true, false]) (C03_toTicking 0 ++ [.ctl 0 .tick,
      .ctl 1 .advance, .signal, .sigActor, .interrupt])).cancelled = true ∧
    (lrun .fixed (linit [true, false]) (C03_toTicking 0 ++ [.ctl 0 .tick,
      .ctl 1 .advance, .signal, .sigActor, .interrupt])).ctls.map (·.phase) = [.ticking, .startupWait] := by
  decide

/-- C03 (ii'). The single-controller slice of the life-cycle model in the vocabulary of correspondence stream
    `lc` (`ret`, `touched`, `restored` = C03's predicate on the final registers, `evals`): for EVERY fan (with or
    without RPM input / control mode, any original mode and PWM), EVERY schedule prefix `pre` — i.e. every stop
    point: during the start-up wait, in the middle of a sweep, after it, mid-measurement, during the head
    start, inside or between control cycles, after a failure — and EVERY continuation `post` after the
    cancellation of the context:
    * (safety) if `Run` has returned, the controller is in `exited` and `touched = 1 → restored = 1`; an
      untouched fan's registers are as they were found; control cycles were only run (`evals > 0`) by a
      controller that restored;
    * (liveness) at most `rank ≤ 12` success-path moves (`drain`) make `Run` return, from wherever the
      controller was when it was cancelled, whatever it did since — and then the same holds. -/
theorem C03_every_stop_point_restores (hasRpm hasMode : Bool) (mode pwm : Int) (pre post : List CEvt) :
    let s := crun (cinit hasRpm hasMode mode pwm) (pre ++ CEvt.cancel :: post)
    (s.ret.isSome = true → s.c.phase = .exited ∧ (s.c.touched = true → s.c.regsRestored = true) ∧
        (s.c.touched = false → s.c.mode = mode ∧ s.c.pwm = pwm) ∧
        (0 < s.cycles → s.c.restored = true)) ∧
    ((drain 12 s).ret.isSome = true ∧ (drain 12 s).c.phase = .exited ∧
        ((drain 12 s).c.touched = true → (drain 12 s).c.regsRestored = true) ∧
        ((drain 12 s).c.touched = false → (drain 12 s).c.mode = mode ∧ (drain 12 s).c.pwm = pwm)) := by
  intro s
  have hs : RInv mode pwm s := crun_rinv _ (cinit_rinv hasRpm hasMode mode pwm)
  have hcan : s.cancelled = true := by
    show (crun _ (pre ++ CEvt.cancel :: post)).cancelled = true
    rw [crun_append]
    exact crun_cancelled post _ rfl
  have ⟨hd, hdret⟩ := hs.drained hcan (rank_le _)
  exact ⟨fun hret => have r := hs.returned hret; ⟨r.1, r.2.1, hs.untouched, r.2.2.1⟩,
    hdret, (hd.returned hdret).1, (hd.returned hdret).2.1, hd.untouched⟩

/-- … and without any cancellation at all the safety half holds as well (a controller that stops by itself:
    stalled at maximum PWM, curve error, start-up error). -/
theorem C03_every_return_restores (hasRpm hasMode : Bool) (mode pwm : Int) (es : List CEvt) :
    let s := crun (cinit hasRpm hasMode mode pwm) es
    s.ret.isSome = true → s.c.phase = .exited ∧ (s.c.touched = true → s.c.regsRestored = true) ∧
      (s.ret = some true → s.c.regulated = false ∧ s.cycles = 0) :=
  fun hret => have r := (crun_rinv es (cinit_rinv hasRpm hasMode mode pwm)).returned hret; ⟨r.1, r.2.1, r.2.2.2⟩

/-- C03 (ii'). The single-controller run IS the per-controller slice of the daemon model: the daemon LTS with
    that one controller, scheduled with the controller's moves as `.ctl 0 a` and every cancellation as "a signal
    arrives, the signal actor takes it, the group interrupts" (`embed`), is at every moment in the state the
    single-controller run is in (same controller state, same `ctx`), and is still running. Part (ii) is stated
    for `linit`, the daemon whose fans have a control mode and are found at mode 2, PWM 0
    (`linit [b] = { ctls := [(cinit b true 2 0).c] }`): for those registers its theorems about all schedules
    speak about the runs stream `lc` drives. -/
theorem C03_slice_is_lts (hasRpm hasMode : Bool) (mode pwm : Int) (es : List CEvt) :
    let L := lrun .fixed { ctls := [(cinit hasRpm hasMode mode pwm).c] } (embed es)
    L.ctls = [(crun (cinit hasRpm hasMode mode pwm) es).c] ∧
    L.cancelled = (crun (cinit hasRpm hasMode mode pwm) es).cancelled ∧ L.proc = .running :=
  let h := sim_run es (sim_init (c := (cinit hasRpm hasMode mode pwm).c) rfl)
  ⟨h.ctls, h.canc, h.run⟩

example (b : Bool) : linit [b] = { ctls := [(cinit b true 2 0).c] } := rfl

/-- non-vacuity: a hwmon fan found in automatic mode (2) at PWM 90, no stored data; the context is cancelled in
    the middle of the PWM-map sweep; the controller finishes sweep, measurement and head start, sees the
    cancellation at its first `select`, restores, returns nil: touched, mode 2 again, PWM 90 again, no cycle. -/
example :
    let s := crun (cinit true true 2 90)
      ([.act .advance, .act .advance, .act .needInit, .act .needSweep, .act (.write 255), .act (.write 254),
        .cancel, .act (.write 253), .act (.write 0), .act (.write 60), .act .advance, .act (.write 0),
        .act (.write 1), .act .advance, .act .advance, .act .advance, .act .seeCancel, .act .advance,
        .act .advance])
    s.ret = some false ∧ s.c.touched = true ∧ s.c.regsRestored = true ∧ s.c.mode = 2 ∧ s.c.pwm = 90 ∧
      s.cycles = 0 := by
  decide

/-- non-vacuity: a file fan (no control mode) found at PWM 90, cancelled inside its second control cycle:
    handed back at PWM 255 -/
example :
    let s := crun (cinit false false 0 90)
      ([.act .advance, .act .advance, .act .advance, .act .advance, .act .advance, .act .tick, .cancel,
        .act (.tick 140)] )
    s.ret = none ∧ (drain 12 s).ret = some false ∧ (drain 12 s).c.pwm = 255 ∧ (drain 12 s).cycles = 2 ∧
      (drain 12 s).c.regsRestored = true := by
  decide

#print axioms C03_restore
#print axioms C03_restore_original_mode
#print axioms C03_restore_tight
#print axioms C03_restore_tight_ignored
#print axioms C03_restore_perm_blind
#print axioms C03_restore_read_blind
#print axioms C03_stalled_then_restore
#print axioms C03_lifecycle_no_crash
#print axioms C03_old_semantics_crashes
#print axioms C03_lifecycle_restores
#print axioms C03_lifecycle_touched
#print axioms C03_lifecycle_init_gap_closed
#print axioms C03_lifecycle_untouched_before_start
#print axioms C03_lifecycle_progress
#print axioms C03_lifecycle_no_circling
#print axioms C03_lifecycle_can_exit
#print axioms C03_every_stop_point_restores
#print axioms C03_every_return_restores
#print axioms C03_slice_is_lts

end Fan2go
