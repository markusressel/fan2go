/-
  C08  Sensor smoothing stays within observed readings, converges, ignores failed reads
       (internal/util/math.go `UpdateSimpleMovingAvg`, internal/monitor.go `updateSensor`,
        internal/sensors/{hwmon,file,cmd}.go `GetValue`; models: Model/Util.lean, Model/Sensor.lean)

  `upd n avg x = updateSimpleMovingAvg avg n x = avg ⊕ ((1 ⊘ float64(n)) ⊗ (x ⊖ avg))` in binary64
  (⊕ ⊖ ⊗ ⊘ correctly rounded, overflow to ±Inf, NaN). `Fin64 q` : `q` is the value of a finite double.

  RESULT
  * failed / non-finite reads leave the average unchanged          – PROVED (`C08_failed_read_*`)
  * hull for window sizes n ≥ 2 (differences below 2^1023)         – PROVED (`C08_hull_n2`, `_history`)
  * hull "for all window sizes ≥ 1 and all finite readings"         – REFUTED (`C08_hull_refuted`):
      n = 1 computes a ⊕ (b ⊖ a), which is b only when b − a is representable
      (`C08_hull_n1`); witnesses 2^54 ↦ 1 gives 0, and 76.228 ↦ 0.211 gives 0.21099999999999852.
      For n ≥ 2 the only failure is overflow of x − avg (`C08_hull_overflow_witness`).
  * geometric convergence with factor 1 − 1/n                        – PROVED up to an explicit rounding
      slack 2^-48·M + 2^-1072 per poll (`C08_converge`, `C08_converge_hist`); the literal claim
      "shrinks by the factor 1 − 1/n" cannot hold exactly in floating point.
-/
import Fan2go.Proofs.MovingAvg
import Fan2go.Model.Sensor
import Fan2go.Proofs.FoldMinMax
namespace Fan2go
open F64

/-- which polls fail: hwmon/file – the read failed; cmd – the command failed, printed garbage, or
    printed a NaN / ±Inf. -/
theorem C08_failure_classes :
    (∃ e, sensorGetValue .hwmon .readFail = .err e) ∧
    (∃ e, sensorGetValue .file .readFail = .err e) ∧
    (∃ e, sensorGetValue .cmd .execErr = .err e) ∧
    (∃ e, sensorGetValue .cmd .parseErr = .err e) ∧
    (∃ e, sensorGetValue .cmd (.parsed nan) = .err e) ∧
    (∀ s, ∃ e, sensorGetValue .cmd (.parsed (inf s)) = .err e) :=
  ⟨⟨_, rfl⟩, ⟨_, rfl⟩, ⟨_, rfl⟩, ⟨_, rfl⟩, ⟨_, rfl⟩, fun _ => ⟨_, rfl⟩⟩

theorem sensorGetValue_cases (k : SensorKind) (io : SensorIo) :
    (∃ r, io = .readOk r ∧ sensorGetValue k io = .ok (ofInt r)) ∨
    (∃ v, io = .parsed v ∧ v.isFinite = true ∧ sensorGetValue k io = .ok v) ∨
    ∃ e, sensorGetValue k io = .err e := by
  cases k <;> cases io <;> simp [sensorGetValue]
  split_ifs with hf <;> simp [hf]

/-- `GetValue` never panics. -/
theorem C08_getValue_total (k : SensorKind) (io : SensorIo) :
    (∃ v, sensorGetValue k io = .ok v) ∨ (∃ e, sensorGetValue k io = .err e) := by
  rcases sensorGetValue_cases k io with ⟨_, _, h⟩ | ⟨_, _, _, h⟩ | h
  · exact .inl ⟨_, h⟩
  · exact .inl ⟨_, h⟩
  · exact .inr h

/-- A poll whose read fails leaves the smoothed value unchanged and reports the error. -/
theorem C08_failed_read_unchanged (n : Int) (avg : F64) (k : SensorKind) (io : SensorIo) (e : String)
    (h : sensorGetValue k io = .err e) :
    (updateSensor n avg k io).1 = avg ∧ (updateSensor n avg k io).2 = .err e := by
  unfold updateSensor; rw [h]; exact ⟨rfl, rfl⟩

/-- in particular for each of the failure classes -/
theorem C08_failed_read_classes (n : Int) (avg : F64) :
    (updateSensor n avg .hwmon .readFail).1 = avg ∧ (updateSensor n avg .file .readFail).1 = avg ∧
    (updateSensor n avg .cmd .execErr).1 = avg ∧ (updateSensor n avg .cmd .parseErr).1 = avg ∧
    (updateSensor n avg .cmd (.parsed nan)).1 = avg ∧
    (∀ s, (updateSensor n avg .cmd (.parsed (inf s))).1 = avg) :=
  ⟨rfl, rfl, rfl, rfl, rfl, fun _ => rfl⟩

/-- A successful read feeds exactly the value read into the moving average. -/
theorem C08_ok_read_updates (n : Int) (avg : F64) :
    (∀ r, updateSensor n avg .hwmon (.readOk r) = (upd n avg (ofInt r), .ok ())) ∧
    (∀ r, updateSensor n avg .file (.readOk r) = (upd n avg (ofInt r), .ok ())) ∧
    (∀ q, updateSensor n avg .cmd (.parsed (fin q)) = (upd n avg (fin q), .ok ())) :=
  ⟨fun _ => rfl, fun _ => rfl, fun _ => rfl⟩

/-- an accepted reading is never NaN / ±Inf when it comes from a cmd sensor or from an integer file
    with |value| ≤ 2^53 (every realistic millidegree reading). -/
theorem C08_ok_read_finite (k : SensorKind) (io : SensorIo) (v : F64)
    (h : sensorGetValue k io = .ok v) (hsmall : ∀ r, io = .readOk r → |r| ≤ 2 ^ 53) :
    v.isFinite = true := by
  rcases sensorGetValue_cases k io with ⟨r, e, h'⟩ | ⟨w, _, hf, h'⟩ | ⟨e, h'⟩
  · cases h'.symm.trans h; rw [ofInt_small (hsmall r e)]; rfl
  · cases h'.symm.trans h; exact hf
  · cases h'.symm.trans h

/-- why a non-finite reading has to be rejected: NaN in either position poisons the average, and a
    NaN average stays NaN forever. -/
theorem C08_nan_absorbing (n : Int) (avg x : F64) : upd n nan x = nan ∧ upd n avg nan = nan :=
  ⟨rfl, by unfold upd updateSimpleMovingAvg; rw [nan_sub, mul_nan, add_nan]⟩

example : (updateSensor 10 (fin 42) .cmd (.parsed nan)).1 = fin 42 :=
  (C08_failed_read_unchanged 10 (fin 42) .cmd (.parsed nan) _ rfl).1

/-- One poll, window 2 ≤ n ≤ 2^53, finite average `a` and reading `b` whose difference does not
    overflow: the new average is a finite double between them. -/
theorem C08_hull_n2 (n : Int) (avg x : F64) (a b : ℚ) (h2 : 2 ≤ n) (hn : n ≤ 2 ^ 53)
    (havg : avg = fin a) (hx : x = fin b) (ha : Fin64 a) (hb : Fin64 b)
    (hd : |b - a| ≤ pow2 1023) :
    ∃ c, upd n avg x = fin c ∧ Fin64 c ∧ min a b ≤ c ∧ c ≤ max a b := by
  subst havg hx; exact ⟨_, upd_hull (isWeight_wgt (by omega) hn) ha hb hd (.inl h2)⟩

example : ∃ c, upd 10 (fin 40000) (fin 45000) = fin c ∧ Fin64 c ∧ min 40000 45000 ≤ c ∧
    c ≤ max 40000 45000 := by
  have i4 : Fin64 ((40000 : Int) : ℚ) := fin64_intCast (by norm_num)
  have i5 : Fin64 ((45000 : Int) : ℚ) := fin64_intCast (by norm_num)
  exact C08_hull_n2 10 _ _ 40000 45000 (by norm_num) (by norm_num) rfl rfl
    (by simpa using i4) (by simpa using i5) (abs_le_pow2_of_le 13 (by norm_num) (by norm_num))

/-- Whole history: starting from `a0` and polling the finite readings `bs` (all inside a band
    `[L, U]` of width ≤ 2^1023 that also contains `a0`), the average is a finite double in `[L, U]`. -/
theorem C08_hull_history_band (n : Int) (h2 : 2 ≤ n) (hn : n ≤ 2 ^ 53) (L U a0 : ℚ) (bs : List ℚ)
    (hw : U - L ≤ pow2 1023) (ha : Fin64 a0) (hl : L ≤ a0) (hu : a0 ≤ U)
    (hb : ∀ b ∈ bs, Fin64 b ∧ L ≤ b ∧ b ≤ U) :
    ∃ c, (bs.map fin).foldl (upd n) (fin a0) = fin c ∧ Fin64 c ∧ L ≤ c ∧ c ≤ U := by
  induction bs generalizing a0 with
  | nil => exact ⟨a0, rfl, ha, hl, hu⟩
  | cons b r ih =>
    obtain ⟨fb, lb, ub⟩ := hb b List.mem_cons_self
    obtain ⟨e, fc, lc, uc⟩ := upd_hull (isWeight_wgt (by omega) hn) ha fb
      (by rw [abs_le]; constructor <;> linarith) (.inl h2)
    rw [List.map_cons, List.foldl_cons, e]
    exact ih _ fc ((le_min hl lb).trans lc) (uc.trans (max_le hu ub))
      fun x hx => hb x (List.mem_cons_of_mem _ hx)

/-- … in particular between the smallest and the largest of the initial value and all readings. -/
theorem C08_hull_history (n : Int) (h2 : 2 ≤ n) (hn : n ≤ 2 ^ 53) (a0 : ℚ) (bs : List ℚ)
    (ha : Fin64 a0) (hb : ∀ b ∈ bs, Fin64 b)
    (hw : bs.foldl max a0 - bs.foldl min a0 ≤ pow2 1023) :
    ∃ c, (bs.map fin).foldl (upd n) (fin a0) = fin c ∧ Fin64 c ∧
      bs.foldl min a0 ≤ c ∧ c ≤ bs.foldl max a0 :=
  have lo := List.le_foldl_min_iff.1 (le_refl (bs.foldl min a0))
  have hi := List.foldl_max_le_iff.1 (le_refl (bs.foldl max a0))
  C08_hull_history_band n h2 hn _ _ a0 bs hw ha lo.1 hi.1 fun b hm => ⟨hb b hm, lo.2 b hm, hi.2 b hm⟩

example : ∃ c, ([1, 0, 1].map fin).foldl (upd 2) (fin 0) = fin c ∧ Fin64 c ∧ 0 ≤ c ∧ c ≤ 1 := by
  exact C08_hull_history_band 2 (by norm_num) (by norm_num) 0 1 0 [1, 0, 1]
    (by norm_num; exact one_le_pow2 (by norm_num)) fin64_zero le_rfl (by norm_num)
    (by intro b hb; simp at hb; rcases hb with rfl | rfl | rfl <;> simp [fin64_zero, fin64_one])

/-- window 1: the average becomes the reading provided the difference is exactly representable. -/
theorem C08_hull_n1 (a b : ℚ) (hb : Fin64 b) (hr : Rep64 (b - a)) (hd : |b - a| ≤ pow2 1023) :
    upd 1 (fin a) (fin b) = fin b := by
  rw [upd_one hd, fl64_of_rep hr, add_sub_cancel]
  exact ofRat_of_fin64 hb

/-- window 1 in general: `a ⊕ (b ⊖ a)`. -/
theorem C08_n1_formula (a b : ℚ) (hd : |b - a| ≤ pow2 1023) :
    upd 1 (fin a) (fin b) = ofRat (a + fl64 (b - a)) := upd_one hd

example : upd 1 (fin 3) (fin 5) = fin 5 := by
  have h5 : Fin64 ((5 : Int) : ℚ) := fin64_intCast (by norm_num)
  have h2 : Rep64 ((2 : Int) : ℚ) := rep64_intCast 2 (by norm_num)
  exact C08_hull_n1 3 5 (by simpa using h5) (by norm_num; simpa using h2)
    (abs_le_pow2_of_le 1 (by norm_num) (by norm_num))

/-- The property's hull claim as written: all window sizes ≥ 1, all finite averages and readings. -/
def C08_hull_statement : Prop :=
  ∀ (n : Int) (a b : ℚ), 1 ≤ n → n ≤ 2 ^ 53 → Fin64 a → Fin64 b →
    ∃ c, upd n (fin a) (fin b) = fin c ∧ min a b ≤ c ∧ c ≤ max a b

/-- `2^54` -/
def w54 : ℚ := 18014398509481984
/-- the double nearest to 76.228 -/
def w76 : ℚ := 5364068631174971 / 70368744177664
/-- the double nearest to 0.211 -/
def w0211 : ℚ := 7602076171001397 / 36028797018963968
/-- the largest finite double, `(2^53 - 1) * 2^971` -/
def maxFin : ℚ := 179769313486231570814527423731704356798070567525844996598917476803157260780028538760589558632766878171540458953514382464234321326889464182768467546703537516986049910576551282076245490090389328944075868508455133942304583236903222948165808559332123348274797826204144723168738177180919299881250404026184124858368

theorem maxFin_eq : maxFin = (2 ^ 53 - 1) * pow2 971 := by decide +kernel

/-- witness 1 (n = 1): average 2^54, reading 1 ↦ 0, below both. -/
theorem C08_hull_n1_witness :
    Fin64 w54 ∧ Fin64 1 ∧ upd 1 (fin w54) (fin 1) = fin 0 ∧ (0 : ℚ) < min w54 1 :=
  ⟨fin64_of_nonneg (by decide +kernel) (by decide +kernel) (by decide +kernel), fin64_one,
    by decide +kernel, by rw [lt_min_iff]; constructor <;> decide +kernel⟩

/-- witness 2 (n = 1, everyday magnitudes): average 76.228, reading 0.211 ↦ 0.21099999999999852,
    below both. -/
theorem C08_hull_n1_witness_small :
    Fin64 w76 ∧ Fin64 w0211 ∧
    upd 1 (fin w76) (fin w0211) = fin (7602076171001344 / 36028797018963968) ∧
    (7602076171001344 / 36028797018963968 : ℚ) < min w76 w0211 :=
  ⟨fin64_of_nonneg (by decide +kernel) (by decide +kernel) (by decide +kernel),
    fin64_of_nonneg (by decide +kernel) (by decide +kernel) (by decide +kernel),
    by decide +kernel, by rw [lt_min_iff]; constructor <;> decide +kernel⟩

/-- witness 3 (n = 2, overflow): average −MAX, reading +MAX ↦ +Inf. -/
theorem C08_hull_overflow_witness :
    Fin64 (-maxFin) ∧ Fin64 maxFin ∧ upd 2 (fin (-maxFin)) (fin maxFin) = inf false :=
  have h : Fin64 maxFin :=
    fin64_of_nonneg (by decide +kernel) (by decide +kernel) (by decide +kernel)
  ⟨h.neg, h, by decide +kernel⟩

theorem C08_hull_refuted : ¬ C08_hull_statement := by
  intro h
  obtain ⟨f1, f2, e, lt⟩ := C08_hull_n1_witness
  obtain ⟨c, ec, lo, _⟩ := h 1 w54 1 le_rfl (by norm_num) f1 f2
  rw [e] at ec
  have : (0 : ℚ) = c := F64.fin.inj ec
  subst this
  exact absurd lo (not_le.mpr lt)

/-- restricting the claim to windows ≥ 2 does not save it without the no-overflow guard. -/
theorem C08_hull_n2_needs_guard :
    ¬ (∀ (n : Int) (a b : ℚ), 2 ≤ n → n ≤ 2 ^ 53 → Fin64 a → Fin64 b →
        ∃ c, upd n (fin a) (fin b) = fin c ∧ min a b ≤ c ∧ c ≤ max a b) := by
  intro h
  obtain ⟨f1, f2, e⟩ := C08_hull_overflow_witness
  obtain ⟨c, ec, _⟩ := h 2 (-maxFin) maxFin le_rfl (by norm_num) f1 f2
  rw [e] at ec
  cases ec

/-- One poll with reading `c`, any window 1 ≤ n ≤ 2^53, `|a|, |c| ≤ M ≤ 2^1000`: the distance to `c`
    shrinks by the factor `1 − 1/n` up to the rounding slack `2^-48·M + 2^-1072`. -/
theorem C08_converge (n : Int) (a c M : ℚ) (h1 : 1 ≤ n) (hn : n ≤ 2 ^ 53) (ha : |a| ≤ M)
    (hc : |c| ≤ M) (hM : M ≤ pow2 1000) :
    ∃ a', upd n (fin a) (fin c) = fin a' ∧ Rep64 a' ∧
      |a' - c| ≤ (1 - 1 / (n : ℚ)) * |a - c| + pow2 (-48) * M + pow2 (-1072) := by
  have hM0 := (abs_nonneg a).trans ha
  have hw := isWeight_wgt h1 hn
  have h := stepQ_contract h1 hn ha hc
  exact ⟨_, upd_fin_stepQ hw
      ((abs_sub_le_of_abs_le hc ha).trans (mul_le_pow2_1023 (by norm_num) hM0 hM))
      (((stepQ_abs_le hw.nonneg hw.le_one ha hc).2.2.trans
        (mul_le_pow2_1023 (by norm_num) hM0 hM)).trans_lt pow2_1023_lt_f64Huge),
    rep64_fl64 _, by linarith⟩

/-- `k` polls with the constant reading `c` (window 2 ≤ n ≤ 2^53): the average stays between `a0` and
    `c`, and its distance to `c` is at most `(1 − 1/n)^k·|a0 − c|` plus `n` times the one-step slack. -/
theorem C08_converge_hist (n : Int) (a0 c M : ℚ) (k : Nat) (h2 : 2 ≤ n) (hn : n ≤ 2 ^ 53)
    (ha : Fin64 a0) (hc : Fin64 c) (haM : |a0| ≤ M) (hcM : |c| ≤ M) (hM : M ≤ pow2 1000) :
    ∃ ak, pollConst n c k (fin a0) = fin ak ∧ Fin64 ak ∧ min a0 c ≤ ak ∧ ak ≤ max a0 c ∧
      |ak - c| ≤ (1 - 1 / (n : ℚ)) ^ k * |a0 - c| + n * (pow2 (-48) * M + pow2 (-1072)) :=
  upd_converge_hist (by omega) hn (.inl h2) ha hc haM hcM hM k

example : ∃ ak, pollConst 2 1 5 (fin 0) = fin ak ∧ Fin64 ak ∧ min 0 1 ≤ ak ∧ ak ≤ max 0 1 ∧
    |ak - 1| ≤ (1 - 1 / ((2 : Int) : ℚ)) ^ 5 * |0 - 1| + (2 : Int) * (pow2 (-48) * 1 + pow2 (-1072)) :=
  C08_converge_hist 2 0 1 1 5 (by norm_num) (by norm_num) fin64_zero fin64_one (by norm_num)
    (by norm_num) (one_le_pow2 (by norm_num))

end Fan2go

#print axioms Fan2go.C08_failure_classes
#print axioms Fan2go.C08_getValue_total
#print axioms Fan2go.C08_failed_read_unchanged
#print axioms Fan2go.C08_failed_read_classes
#print axioms Fan2go.C08_ok_read_updates
#print axioms Fan2go.C08_ok_read_finite
#print axioms Fan2go.C08_nan_absorbing
#print axioms Fan2go.C08_hull_n2
#print axioms Fan2go.C08_hull_history_band
#print axioms Fan2go.C08_hull_history
#print axioms Fan2go.C08_hull_n1
#print axioms Fan2go.C08_n1_formula
#print axioms Fan2go.C08_hull_n1_witness
#print axioms Fan2go.C08_hull_n1_witness_small
#print axioms Fan2go.C08_hull_overflow_witness
#print axioms Fan2go.C08_hull_refuted
#print axioms Fan2go.C08_hull_n2_needs_guard
#print axioms Fan2go.C08_converge
#print axioms Fan2go.C08_converge_hist
