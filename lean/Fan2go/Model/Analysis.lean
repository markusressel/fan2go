/-
  Model of WHAT the start-up analysis of a fan computes (C15, second part):
    internal/controller/controller.go   `computePwmMapAutomatically` (255 → 0 sweep / default map),
                                        `updateDistinctPwmValues`, the RPM-curve loop of
                                        `RunInitializationSequence`, `setPwm`, `getPwm`, `waitForFanToSettle`,
                                        `trySetManualPwm`, `restorePwmEnabled`, and `Run` up to the first tick
    internal/util/math.go               `InterpolateLinearly`, `InterpolateLinearlyInt`
    internal/fans/file.go               `var interpolated` (the built-in curve of file / cmd fans)
  written operation by operation after the Go source. Core Lean only.

  `Model/Startup.lean` decides WHICH steps a start takes (booleans); the functions `…D` below are the same
  entry points carrying the DATA: the controller's `pwmMap` / `pwmValuesWithDistinctTarget`, the fan object
  (`FanSt` of Model/Fan.lean), the two database entries with their contents (`DStore`) and the registers of
  the device. `Proofs/AnalysisAbs.lean` proves that erasing the data (`DOut.abs`) gives exactly the decisions of
  `Model/Startup.lean` (so every C15 / C16 theorem about the decision model speaks about these runs too).

  The device (`Phys`, `Regs`) is the one the harness plays (go/harness/startup.go): every read succeeds –
  except that the PWM value may be unreadable altogether (`pwmRead = false`) –, every write is applied, a
  written PWM value `v` lands in the register as `resp v`, and the RPM register shows `rpmOf` of the PWM
  register as of the last write event (PWM or mode). `resp` and `rpmOf` are arbitrary functions here; the
  harness instantiates them with `quantResp q` and `harnessRpm spinAt`.

  Not modelled: failing device I/O during the analysis (C09's subject; the decision model has `devOk` for
  it), failing database operations (C14), `fan.SetRpmAvg` inside the measurement loop (no influence on what
  is attached or stored), the PWM value written by the first regulation cycle (Model/Controller.lean's
  subject; `restorePwmEnabled` overwrites it before `Run` returns).
-/
import Fan2go.Model.Startup
import Fan2go.Model.Fan
namespace Fan2go.Analysis
open Fan2go Fan2go.Startup F64

/-! ### the device -/

/-- the physics of the device behind the fan -/
structure Phys where
  /-- how a written PWM value lands in the register -/
  resp : Int → Int
  /-- the RPM the fan settles at for a register value -/
  rpmOf : Int → Int

/-- what the device saw, as the harness records it: PWM writes (the value written, not the register),
    `pwm_enable` writes, and the marker "the fan's curve was evaluated for the first time" -/
inductive DevEv where
  | pwm (v : Int)
  | mode (v : Int)
  | eval
  deriving DecidableEq, Repr, Inhabited

/-- registers of the device (`verifhook.Device{Mode: 2, Pwm: 100}`: the RPM register starts at 0) and the log
    of events, newest first -/
structure Regs where
  pwm : Int := 100
  rpm : Int := 0
  mode : Int := 2
  log : List DevEv := []
  deriving DecidableEq, Repr, Inhabited

/-- a PWM write event -/
def Phys.write (ph : Phys) (r : Regs) (v : Int) : Regs :=
  { r with pwm := ph.resp v, rpm := ph.rpmOf (ph.resp v), log := .pwm v :: r.log }

/-- a `pwm_enable` write event (the RPM register is refreshed at every write event) -/
def Phys.writeMode (ph : Phys) (r : Regs) (v : Int) : Regs :=
  { r with mode := v, rpm := ph.rpmOf r.pwm, log := .mode v :: r.log }

/-- the first `curve.Evaluate()` of the regulation loop -/
def Regs.mark (r : Regs) : Regs := { r with log := .eval :: r.log }

/-- the harness's quantiser `v ↦ (v / q) * q` (Go division truncates), identity for `q ≤ 1` -/
def quantResp (q v : Int) : Int := if q > 1 then Int.tdiv v q * q else v

/-- the harness's fan: 10 RPM per PWM step once the register reaches `spinAt`, else standing still -/
def harnessRpm (spinAt p : Int) : Int := if p ≥ spinAt then 10 * p else 0

def harnessPhys (q spinAt : Int) : Phys := { resp := quantResp q, rpmOf := harnessRpm spinAt }

/-! ### `util.InterpolateLinearly(Int)` and the two constants built with it -/

/-- the loop `for i := start; i <= stop; i++ { interpolated[i] = CalculateInterpolatedCurveValue(data, linear, float64(i)) }`
    (`n` keys from `i` on); the result is sorted by key -/
def interpolateLoop (data : List (Int × F64)) : Int → Nat → Res (List (Int × F64))
  | _, 0 => .ok []
  | i, n + 1 =>
    match interp data (ofInt i) with
    | .ok v =>
      match interpolateLoop data (i + 1) n with
      | .ok r => .ok ((i, v) :: r)
      | .err e => .err e
      | .panic s => .panic s
    | .err e => .err e
    | .panic s => .panic s

/-- `util.InterpolateLinearly(&data, start, stop)`; `data` sorted by key -/
def interpolateLinearly (data : List (Int × F64)) (start stop : Int) : Res (List (Int × F64)) :=
  interpolateLoop data start (stop - start + 1).toNat

/-- `util.InterpolateLinearlyInt(&data, start, stop)`: `float64(v)` in, `int(v)` out -/
def interpolateLinearlyInt (indef : Int) (data : List (Int × Int)) (start stop : Int) : Res (List (Int × Int)) :=
  match interpolateLinearly (data.map fun p => (p.1, ofInt p.2)) start stop with
  | .ok r => .ok (r.map fun p => (p.1, toInt indef p.2))
  | .err e => .err e
  | .panic s => .panic s

/-- `util.InterpolateLinearlyInt(&map[int]int{0: 0, 255: 255}, 0, 255)` of `computePwmMapAutomatically`.
    The fall-back `[]` is unreachable: `Proofs/Analysis.lean` `defaultPwmMap_eq` evaluates the call. -/
def defaultPwmMap (indef : Int) : List (Int × Int) :=
  match interpolateLinearlyInt indef [(0, 0), (255, 255)] 0 255 with
  | .ok m => m
  | _ => []

/-- `var interpolated = util.InterpolateLinearly(&map[int]float64{0: 0, 255: 255}, 0, 255)` (fans/file.go,
    fans/cmd.go): what `GetFanRpmCurveData` of a file / cmd fan returns. Fall-back unreachable (`fileCurve_eq`). -/
def fileCurve : List (Int × F64) :=
  match interpolateLinearly [(0, ofInt 0), (255, ofInt 255)] 0 255 with
  | .ok m => m
  | _ => []

/-! ### the fan and the controller -/

/-- the configuration of one fan as far as start-up reads it -/
structure FanCfg where
  kind : Kind := .hwmon
  /-- `Supports(FeatureRpmSensor)` -/
  hasRpm : Bool := true
  /-- `Supports(FeaturePwmSensor)` -/
  pwmRead : Bool := true
  /-- `Config.PwmMap` (sorted by key) -/
  cfgMap : Option (List (Int × Int)) := none
  neverStop : Bool := false
  cfgMin : Option Int := none
  cfgStart : Option Int := none
  cfgMax : Option Int := none
  deriving Repr, Inhabited

/-- the decision model's view of the fan; `devOk` = "the measurement loop succeeds and yields a point" -/
def FanCfg.decl (c : FanCfg) (devOk : Bool) : FanDecl :=
  { kind := c.kind, hasRpm := c.hasRpm, pwmRead := c.pwmRead, cfgMap := c.cfgMap.isSome,
    minMax := c.cfgMin.isSome && c.cfgMax.isSome, devOk := devOk }

def fanKind : Kind → FanKind
  | .hwmon => .hwmon
  | .file => .file
  | .cmd => .cmd

/-- `fans.NewFan(config)` -/
def FanCfg.newFan (c : FanCfg) : FanSt := FanSt.new (fanKind c.kind) c.neverStop c.cfgMin c.cfgStart c.cfgMax

/-- `Supports(FeatureControlMode)`: hwmon fans with a `pwmN_enable` file (the harness always creates it) -/
def FanCfg.hasMode (c : FanCfg) : Bool := c.kind == .hwmon

/-- `fan.GetFanRpmCurveData()` as `SaveFanPwmData` reads it -/
def curveOf (c : FanCfg) (fan : FanSt) : Option (List (Int × F64)) :=
  match c.kind with
  | .hwmon => fan.curveData
  | _ => some fileCurve

/-- the fields of `DefaultFanController` start-up touches; a PWM map carries the tag of the decision model -/
structure CtlSt where
  pwmMap : Option (MapSrc × List (Int × Int)) := none
  /-- `pwmValuesWithDistinctTarget` -/
  distinct : List Int := []
  lastSet : Option Int := none
  origPwm : Int := 0
  origMode : Int := 0
  deriving Repr, Inhabited

/-- the two database entries of one fan id, with their contents -/
structure DStore where
  rpm : Option (List (Int × F64)) := none
  map : Option (MapSrc × List (Int × Int)) := none
  deriving Repr, Inhabited

def DStore.abs (s : DStore) : Store := { rpm := s.rpm.isSome, map := s.map.map (·.1) }

/-- `applyPwmMapping` -/
def CtlSt.mapping (c : CtlSt) (k : Int) : Int :=
  match c.pwmMap with
  | some (_, m) => mapGet m k
  | none => 0

/-- `updateDistinctPwmValues`: `ExtractKeysWithDistinctValues` walks the sorted keys, so for a key-sorted
    map the result is ascending already and `sort.Ints` changes nothing (`extractKeys_sorted`) -/
def updateDistinct (c : CtlSt) : CtlSt :=
  { c with distinct := match c.pwmMap with
      | some (_, m) => extractKeys m
      | none => [] }

/-- `(*DefaultFanController).getPwm()` -/
def getPwm (cfg : FanCfg) (fan : FanSt) (c : CtlSt) (r : Regs) : Int :=
  if cfg.pwmRead then r.pwm
  else match c.lastSet with
    | some v => v
    | none => fan.getMin

/-- `trySetManualPwm(fan)`: `SetPwmEnabled(1)`, write applied and read back -/
def trySetManual (ph : Phys) (cfg : FanCfg) (r : Regs) : Regs :=
  if cfg.hasMode then ph.writeMode r 1 else r

/-- `restorePwmEnabled()` -/
def restore (ph : Phys) (cfg : FanCfg) (c : CtlSt) (r : Regs) : Regs :=
  let r1 := ph.write r c.origPwm
  if cfg.hasMode && c.origMode != 1 then
    ph.writeMode r1 c.origMode          -- `SetPwmEnabled(original)` succeeds: return
  else
    ph.write r1 255

/-- `setPwm(target)` -/
def setPwm (ph : Phys) (cfg : FanCfg) (c : CtlSt) (r : Regs) (target : Int) : Res (CtlSt × Regs) :=
  match findClosest target c.distinct.toArray with
  | .ok closestTarget =>
    let closestExpected := c.mapping closestTarget
    let c' := { c with lastSet := some target }
    if cfg.pwmRead && closestExpected == r.pwm then .ok (c', r)   -- "nothing to do"
    else .ok (c', ph.write r closestExpected)
  | .err e => .err e
  | .panic s => .panic s

/-! ### the sweep of `computePwmMapAutomatically` -/

/-- `for i := n; i >= 0; i-- { fan.SetPwm(i); pwm, _ := fan.GetPwm(); pwmMap[i] = pwm }`;
    keys arrive in descending order, so prepending keeps the list sorted by key -/
def sweepFrom (ph : Phys) : Nat → Regs → List (Int × Int) → Regs × List (Int × Int)
  | 0, r, acc =>
    let r' := ph.write r 0
    (r', (0, r'.pwm) :: acc)
  | n + 1, r, acc =>
    let r' := ph.write r ((n + 1 : Nat) : Int)
    sweepFrom ph n r' ((((n + 1 : Nat) : Int), r'.pwm) :: acc)

def sweep (ph : Phys) (r : Regs) : Regs × List (Int × Int) := sweepFrom ph 255 r []

/-- `computePwmMapAutomatically()` -/
def computeAuto (indef : Int) (ph : Phys) (cfg : FanCfg) (fan : FanSt) (c : CtlSt) (r : Regs) :
    List Action × CtlSt × Regs :=
  if !cfg.pwmRead then
    ([.defaultMap], { c with pwmMap := some (.default, defaultPwmMap indef) }, r)
  else
    let r1 := trySetManual ph cfg r
    let (r2, m) := sweep ph r1
    -- `_ = fan.SetPwm(f.applyPwmMapping(fan.GetStartPwm()))`
    ([.sweep], { c with pwmMap := some (.swept, m) }, ph.write r2 (mapGet m fan.getStart))

/-- `computePwmMapLocked()` (and `computePwmMap()`, which only adds the mutex) -/
def computePwmMapLockedD (indef : Int) (ph : Phys) (cfg : FanCfg) (fan : FanSt) (c : CtlSt) (st : DStore)
    (r : Regs) : List Action × CtlSt × DStore × Regs :=
  match cfg.cfgMap with
  | some m => ([.useOverride], { c with pwmMap := some (.override, m) }, st, r)
  | none =>
    match st.map with
    | some sm => ([.useStored], { c with pwmMap := some sm }, st, r)
    | none =>
      let (a, c', r') : List Action × CtlSt × Regs :=
        match c.pwmMap with
        | none => computeAuto indef ph cfg fan c r
        | some _ => ([], c, r)
      (a ++ [.saveMap], c', { st with map := c'.pwmMap }, r')

/-! ### the RPM-curve measurement -/

/-- `curveData[k] = v` on the key-sorted list -/
def putF : List (Int × F64) → Int → F64 → List (Int × F64)
  | [], k, v => [(k, v)]
  | (k', v') :: rest, k, v =>
    if k < k' then (k, v) :: (k', v') :: rest
    else if k = k' then (k, v) :: rest
    else (k', v') :: putF rest k v

structure MeasOut where
  ctl : CtlSt
  regs : Regs
  data : List (Int × F64)
  res : Res Unit
  deriving Inhabited

/-- the loop `for _, pwm := range f.pwmValuesWithDistinctTarget { … }` of `RunInitializationSequence`
    (`waitForFanToSettle` / the response delay only let time pass: see `settle`) -/
def measureLoop (ph : Phys) (cfg : FanCfg) (fan : FanSt) : List Int → CtlSt → Regs → List (Int × F64) → MeasOut
  | [], c, r, acc => { ctl := c, regs := r, data := acc, res := .ok () }
  | pwm :: rest, c, r, acc =>
    match setPwm ph cfg c r pwm with
    | .ok (c', r') =>
      let expectedPwm := c'.mapping pwm
      let actualPwm := getPwm cfg fan c' r'
      if actualPwm ≠ expectedPwm then
        measureLoop ph cfg fan rest c' r' acc                                -- "differs from requested one, skipping"
      else
        measureLoop ph cfg fan rest c' r' (putF acc pwm (ofInt r'.rpm))     -- `curveData[pwm] = float64(rpm)`
    | .err e => { ctl := c, regs := r, data := acc, res := .err e }
    | .panic s => { ctl := c, regs := r, data := acc, res := .panic s }

/-! ### `waitForFanToSettle` -/

/-- `rolling.Max` over the window's buckets -/
def windowMax : List F64 → F64
  | [] => F64.zero
  | x :: rest => rest.foldl (fun acc p => if gt p acc then p else acc) x

/-- the loop of `waitForFanToSettle`: `thr` = `MaxRpmDiffForSettledFan`, `rd n` = what the `n`-th `GetRpm`
    returns (`none` = error → `continue`), `win` / `off` = the 10-point rolling window and its write offset,
    `old` = `oldRpm`, `mx` = `measuredRpmDiffMax`. Returns the number of polls after which the loop is left,
    `none` if `fuel` polls were not enough. -/
def settleLoop (thr : F64) (rd : Nat → Option Int) : Nat → Nat → List F64 → Nat → Int → F64 → Option Nat
  | 0, n, _, _, _, mx => if lt mx thr then some n else none
  | fuel + 1, n, win, off, old, mx =>
    if lt mx thr then some n
    else
      match rd n with
      | none => settleLoop thr rd fuel (n + 1) win off old mx
      | some cur =>
        let win' := win.set off (abs (ofInt (cur - old)))
        settleLoop thr rd fuel (n + 1) win' ((off + 1) % 10) cur (ceil (windowMax win'))

/-- `waitForFanToSettle(fan)`: window of 10 filled with `2·thr`, `oldRpm := 0` -/
def settle (thr : F64) (rd : Nat → Option Int) (fuel : Nat) : Option Nat :=
  settleLoop thr rd fuel 0 (List.replicate 10 (ofInt 2 * thr)) 0 0 (ofInt 2 * thr)

/-! ### the entry points, with data -/

structure DOut where
  acts : List Action
  store : DStore
  ctl : CtlSt
  ok : Bool
  regs : Regs
  fan : FanSt
  /-- a panic site reached (never, see `Proofs/Analysis.lean` `measure_ok`) -/
  crash : Option String := none
  deriving Inhabited

def DOut.abs (o : DOut) : Out :=
  { acts := o.acts, store := o.store.abs, ctl := o.ctl.pwmMap.map (·.1), ok := o.ok }

/-- the measurement was entered and did not deliver: an I/O error, or no point at all
    (`AttachFanRpmCurveData` refuses an empty curve) – the decision model's `devOk = false` -/
def DOut.devOk (o : DOut) : Bool := !o.acts.contains .measureFail

/-- `RunInitializationSequence()` -/
def runInitD (indef : Int) (ph : Phys) (cfg : FanCfg) (fan : FanSt) (c : CtlSt) (st : DStore) (r : Regs) : DOut :=
  let (a1, c1, st1, r1) := computePwmMapLockedD indef ph cfg fan c st r
  -- `err = f.persistence.SaveFanPwmMap(fan.GetId(), f.pwmMap)`; `f.updateDistinctPwmValues()`
  let st2 : DStore := { st1 with map := c1.pwmMap }
  let c2 := updateDistinct c1
  let pre := Action.initSequence :: a1 ++ [.saveMap]
  if !cfg.hasRpm then
    { acts := pre ++ [.skipMeasure], store := st2, ctl := c2, ok := true, regs := r1, fan := fan }
  else
    let r2 := trySetManual ph cfg r1
    let mo := measureLoop ph cfg fan c2.distinct c2 r2 []
    match mo.res with
    | .ok () =>
      -- `err = fan.AttachFanRpmCurveData(&curveData)`
      match fan.attach indef (some mo.data) with
      | (fan', .ok ()) =>
        -- `err = f.persistence.SaveFanPwmData(fan)`
        { acts := pre ++ [.manual, .measure, .attach, .saveRpm], store := { st2 with rpm := curveOf cfg fan' },
          ctl := mo.ctl, ok := true, regs := mo.regs, fan := fan' }
      | (fan', _) =>
        { acts := pre ++ [.manual, .measure, .measureFail], store := st2, ctl := mo.ctl, ok := false,
          regs := mo.regs, fan := fan' }
    | .err _ =>
      { acts := pre ++ [.manual, .measure, .measureFail], store := st2, ctl := mo.ctl, ok := false,
        regs := mo.regs, fan := fan }
    | .panic s =>
      { acts := pre ++ [.manual, .measure, .measureFail], store := st2, ctl := mo.ctl, ok := false,
        regs := mo.regs, fan := fan, crash := some s }

/-- the part of `Run` from the second `LoadFanPwmData` on; after the first regulation cycle the context is
    cancelled and `restorePwmEnabled` runs (the cycle itself: `curve.Evaluate()`, `trySetManualPwm` and a PWM
    write that the restore overwrites) -/
def runTailD (indef : Int) (ph : Phys) (cfg : FanCfg) (fan : FanSt) (c : CtlSt) (st : DStore) (r : Regs)
    (acts : List Action) : DOut :=
  match st.rpm with
  | some d =>
    -- `err = fan.AttachFanRpmCurveData(&fanPwmData)`
    match fan.attach indef (some d) with
    | (fan', .ok ()) =>
      -- `f.computePwmMap()`, `f.updateDistinctPwmValues()`
      let (a, c', st', r') := computePwmMapLockedD indef ph cfg fan' c st r
      let c'' := updateDistinct c'
      { acts := acts ++ [.loadRpmOk, .attach] ++ a ++ [.regulate], store := st', ctl := c'', ok := true,
        regs := restore ph cfg c'' (trySetManual ph cfg r'.mark), fan := fan' }
    | (fan', _) =>
      { acts := acts ++ [.loadRpmOk, .attach, .restore], store := st, ctl := c, ok := false,
        regs := restore ph cfg c r, fan := fan' }
  | none =>
    { acts := acts ++ [.loadRpmFail, .restore], store := st, ctl := c, ok := false,
      regs := restore ph cfg c r, fan := fan }

/-- `Run` of a FRESH controller on a FRESH fan object up to (and including) its cancellation right after the
    first regulation cycle -/
def startD (indef : Int) (ph : Phys) (cfg : FanCfg) (st : DStore) (r : Regs) : DOut :=
  let fan := cfg.newFan
  -- `f.originalPwmValue = f.getPwm()`; `f.originalPwmEnabled = fan.GetPwmEnabled()` if supported
  let c0 : CtlSt := { origPwm := getPwm cfg fan {} r, origMode := if cfg.hasMode then r.mode else 0 }
  match st.rpm with
  | some _ => runTailD indef ph cfg fan c0 st r [.loadRpmOk]
  | none =>
    match cfg.kind with
    | .hwmon =>
      let o := runInitD indef ph cfg fan c0 st r
      if o.ok then runTailD indef ph cfg o.fan o.ctl o.store o.regs (.loadRpmFail :: o.acts)
      else { o with acts := .loadRpmFail :: o.acts ++ [.restore], regs := restore ph cfg o.ctl o.regs }
    | _ =>
      -- `err = f.persistence.SaveFanPwmData(fan)`: the built-in curve
      runTailD indef ph cfg fan c0 { st with rpm := curveOf cfg fan } r [.loadRpmFail, .saveRpm]

/-- `fan2go fan reset` -/
def resetD (cfg : FanCfg) (r : Regs) : DOut :=
  { acts := [.deleteRpm, .deleteMap], store := {}, ctl := {}, ok := true, regs := r, fan := cfg.newFan }

/-- `fan2go fan init` -/
def initD (indef : Int) (ph : Phys) (cfg : FanCfg) (r : Regs) : DOut :=
  let o := runInitD indef ph cfg cfg.newFan {} {} r
  { o with acts := [.deleteRpm, .deleteMap] ++ o.acts }

/-- the limits a fresh fan object derives from a stored curve (`LoadFanPwmData` + `AttachFanRpmCurveData`,
    the first thing the next `Run` does): `(min, start, max)`, `none` if the attachment is refused -/
def limitsOf (indef : Int) (cfg : FanCfg) (d : List (Int × F64)) : Option (Int × Int × Int) :=
  match cfg.newFan.attach indef (some d) with
  | (f, .ok ()) => some (f.getMin, f.getStart, f.getMax)
  | _ => none

end Fan2go.Analysis
