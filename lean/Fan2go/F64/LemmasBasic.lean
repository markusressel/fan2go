/-
  Lemma interface for `Fan2go/F64/Basic.lean`, part A: `pow2`, `ilog2`, `rne`. Before them, the
  bounds on `|·|` over ℚ that the error analyses (`fl64_near_num` and its users, the moving average)
  are assembled from.
-/
import Mathlib.Tactic.Linarith
import Mathlib.Tactic.NormNum
import Mathlib.Tactic.Positivity
import Mathlib.Tactic.Ring
import Mathlib.Tactic.Set
import Mathlib.Tactic.SplitIfs
import Mathlib.Algebra.Order.Field.Power
import Mathlib.Data.Rat.Floor
import Mathlib.Algebra.Order.Floor.Ring
import Fan2go.F64.Basic

namespace Fan2go

theorem abs_mul_le' {a b A B : ℚ} (ha : |a| ≤ A) (hb : |b| ≤ B) : |a * b| ≤ A * B := by
  rw [abs_mul]; exact mul_le_mul ha hb (abs_nonneg _) ((abs_nonneg _).trans ha)

theorem abs_unit_mul_le {w : ℚ} (h0 : 0 ≤ w) (h1 : w ≤ 1) (y : ℚ) : |w * y| ≤ |y| := by
  rw [abs_mul, abs_of_nonneg h0]; exact mul_le_of_le_one_left (abs_nonneg _) h1

theorem abs_add_le' {a b A B : ℚ} (ha : |a| ≤ A) (hb : |b| ≤ B) : |a + b| ≤ A + B :=
  (abs_add_le a b).trans (add_le_add ha hb)

theorem abs_div_le' {a t A T : ℚ} (ha : |a| ≤ A) (hT : 0 < T) (ht : T ≤ t) : |a / t| ≤ A / T := by
  have htp : 0 < t := lt_of_lt_of_le hT ht
  rw [abs_div, abs_of_pos htp]
  have hA : 0 ≤ A := (abs_nonneg _).trans ha
  calc |a| / t ≤ A / t := div_le_div_of_nonneg_right ha htp.le
    _ ≤ A / T := div_le_div_of_nonneg_left hA hT ht

theorem abs_le_of_close {a b δ B : ℚ} (h : |a - b| ≤ δ) (hb : |b| + δ ≤ B) : |a| ≤ B := by
  have := abs_add_le' h le_rfl (b := b)
  rw [sub_add_cancel] at this; linarith

theorem abs_sub_le_of_abs_le {a b M : ℚ} (ha : |a| ≤ M) (hb : |b| ≤ M) : |a - b| ≤ 2 * M := by
  have := abs_add_le' ha ((abs_neg b).trans_le hb)
  rwa [← sub_eq_add_neg, ← two_mul] at this

theorem abs_le_of_hull {a b x : ℚ} (l : min a b ≤ x) (u : x ≤ max a b) : |x| ≤ max |a| |b| :=
  (abs_le_max_abs_abs l u).trans (max_le abs_min_le_max_abs_abs abs_max_le_max_abs_abs)

theorem pow2_def (e : Int) : pow2 e = (2 : ℚ) ^ e := rfl

theorem pow2_pos (e : Int) : 0 < pow2 e := by
  rw [pow2_def]; positivity

theorem pow2_ne_zero (e : Int) : pow2 e ≠ 0 := (pow2_pos e).ne'

theorem pow2_nonneg (e : Int) : 0 ≤ pow2 e := (pow2_pos e).le

theorem pow2_zero : pow2 0 = 1 := by simp [pow2_def]

theorem pow2_one : pow2 1 = 2 := by simp [pow2_def]

theorem pow2_add (a b : Int) : pow2 (a + b) = pow2 a * pow2 b := by
  simp only [pow2_def]; exact zpow_add₀ (by norm_num) a b

theorem pow2_sub (a b : Int) : pow2 (a - b) = pow2 a / pow2 b := by
  simp only [pow2_def]; exact zpow_sub₀ (by norm_num) a b

theorem pow2_neg (a : Int) : pow2 (-a) = (pow2 a)⁻¹ := by
  simp only [pow2_def]; exact zpow_neg 2 a

theorem pow2_succ (a : Int) : pow2 (a + 1) = 2 * pow2 a := by
  rw [pow2_add, pow2_one, mul_comm]

theorem pow2_pred (a : Int) : pow2 (a - 1) = pow2 a / 2 := by
  rw [pow2_sub, pow2_one]

theorem pow2_mono {a b : Int} (h : a ≤ b) : pow2 a ≤ pow2 b := by
  simp only [pow2_def]; exact zpow_le_zpow_right₀ (by norm_num) h

theorem pow2_lt {a b : Int} (h : a < b) : pow2 a < pow2 b := by
  simp only [pow2_def]; exact zpow_lt_zpow_right₀ (by norm_num) h

theorem pow2_le_iff {a b : Int} : pow2 a ≤ pow2 b ↔ a ≤ b := by
  simp only [pow2_def]; exact zpow_le_zpow_iff_right₀ (by norm_num)

theorem pow2_lt_iff {a b : Int} : pow2 a < pow2 b ↔ a < b := by
  simp only [pow2_def]; exact zpow_lt_zpow_iff_right₀ (by norm_num)

theorem pow2_natCast (n : Nat) : pow2 (n : Int) = ((2 ^ n : Nat) : ℚ) := by
  rw [pow2_def, zpow_natCast]; push_cast; rfl

theorem pow2_natCast_rat (n : Nat) : pow2 (n : Int) = (2 : ℚ) ^ n := by
  rw [pow2_def, zpow_natCast]

theorem pow2_natCast_int (n : Nat) : pow2 (n : Int) = (((2 : Int) ^ n : Int) : ℚ) := by
  rw [pow2_def, zpow_natCast]; push_cast; rfl

theorem one_le_pow2 {e : Int} (h : 0 ≤ e) : 1 ≤ pow2 e := pow2_zero ▸ pow2_mono h

theorem pow2_neg_natCast (n : Nat) : pow2 (-(n : Int)) = 1 / 2 ^ n := by
  rw [pow2_neg, pow2_natCast_rat, one_div]

theorem pow2_m53 : pow2 (-53) = 1 / 2 ^ 53 := pow2_neg_natCast 53

theorem abs_le_pow2_of_le {x : ℚ} (n : Nat) {e : Int} (h : |x| ≤ 2 ^ n) (hn : (n : Int) ≤ e) :
    |x| ≤ pow2 e := by
  rw [← pow2_natCast_rat] at h
  exact h.trans (pow2_mono hn)

theorem pow2_add_natCast (k : Int) (n : Nat) :
    pow2 (k + n) = (((2 : Int) ^ n : Int) : ℚ) * pow2 k := by
  rw [pow2_add, pow2_natCast_int, mul_comm]

theorem pow2_eq_int_mul {a k : Int} (h : k ≤ a) :
    pow2 a = (((2 : Int) ^ (a - k).toNat : Int) : ℚ) * pow2 k := by
  rw [← pow2_add_natCast, Int.toNat_of_nonneg (by omega), add_sub_cancel]

theorem pow2_log2 {n : Nat} (h : n ≠ 0) :
    pow2 (Nat.log2 n) ≤ n ∧ (n : ℚ) < pow2 (Nat.log2 n + 1) := by
  rw [show (Nat.log2 n : Int) + 1 = ((Nat.log2 n + 1 : Nat) : Int) by push_cast; rfl, pow2_natCast_rat,
    pow2_natCast_rat]
  exact ⟨by exact_mod_cast Nat.log2_self_le h, by exact_mod_cast Nat.lt_log2_self⟩

theorem ilog2_spec {x : ℚ} (hx : 0 < x) : pow2 (ilog2 x) ≤ x ∧ x < pow2 (ilog2 x + 1) := by
  have hnum : 0 < x.num := Rat.num_pos.mpr hx
  have hd : (0 : ℚ) < x.den := by exact_mod_cast x.den_pos
  -- numerator and denominator between powers of two, `x` between their quotients
  obtain ⟨n1, n2⟩ := pow2_log2 (n := x.num.natAbs) (by omega)
  obtain ⟨d1, d2⟩ := pow2_log2 x.den_nz
  rw [show ((x.num.natAbs : Nat) : ℚ) = x.num by
    rw [← Int.cast_natCast, Int.natAbs_of_nonneg hnum.le]] at n1 n2
  set a : Int := (Nat.log2 x.num.natAbs : Int)
  set b : Int := (Nat.log2 x.den : Int)
  have hup : x < pow2 (a - b + 1) := by
    rw [show a - b + 1 = a + 1 - b by ring, pow2_sub, ← Rat.num_div_den x]
    exact div_lt_div₀ n2 d1 (pow2_nonneg _) (pow2_pos _)
  have hlow : pow2 (a - b - 1) ≤ x := by
    rw [show a - b - 1 = a - (b + 1) by ring, pow2_sub, ← Rat.num_div_den x]
    exact div_le_div₀ (by exact_mod_cast hnum.le) n1 hd d2.le
  show pow2 (if pow2 (a - b) ≤ x then a - b else a - b - 1) ≤ x ∧
    x < pow2 ((if pow2 (a - b) ≤ x then a - b else a - b - 1) + 1)
  split_ifs with hc
  · exact ⟨hc, hup⟩
  · exact ⟨hlow, by rw [sub_add_cancel]; exact not_le.mp hc⟩

theorem lt_pow2_ilog2_succ (x : ℚ) : x < pow2 (ilog2 x + 1) := by
  rcases lt_or_ge 0 x with h | h
  · exact (ilog2_spec h).2
  · exact h.trans_lt (pow2_pos _)

theorem le_ilog2_iff {x : ℚ} (hx : 0 < x) {e : Int} : e ≤ ilog2 x ↔ pow2 e ≤ x := by
  obtain ⟨s1, s2⟩ := ilog2_spec hx
  constructor
  · intro h; exact (pow2_mono h).trans s1
  · intro h
    have : e < ilog2 x + 1 := pow2_lt_iff.mp (lt_of_le_of_lt h s2)
    omega

theorem ilog2_lt_iff {x : ℚ} (hx : 0 < x) {e : Int} : ilog2 x < e ↔ x < pow2 e := by
  rw [← not_le, le_ilog2_iff hx, not_le]

theorem ilog2_unique {x : ℚ} {e : Int} (h1 : pow2 e ≤ x) (h2 : x < pow2 (e + 1)) :
    ilog2 x = e :=
  have hx : 0 < x := lt_of_lt_of_le (pow2_pos e) h1
  le_antisymm (Int.lt_add_one_iff.mp ((ilog2_lt_iff hx).mpr h2)) ((le_ilog2_iff hx).mpr h1)

theorem ilog2_mono {x y : ℚ} (hx : 0 < x) (hxy : x ≤ y) : ilog2 x ≤ ilog2 y :=
  (le_ilog2_iff (hx.trans_le hxy)).mpr ((ilog2_spec hx).1.trans hxy)

theorem ilog2_pow2 (e : Int) : ilog2 (pow2 e) = e :=
  ilog2_unique le_rfl (pow2_lt (by omega))

theorem rne_def (x : ℚ) :
    rne x = if x - (⌊x⌋ : ℚ) < 1 / 2 then ⌊x⌋
      else if 1 / 2 < x - (⌊x⌋ : ℚ) then ⌊x⌋ + 1
      else if ⌊x⌋ % 2 = 0 then ⌊x⌋ else ⌊x⌋ + 1 := rfl

theorem rne_of_lt {x : ℚ} (h : x - (⌊x⌋ : ℚ) < 1 / 2) : rne x = ⌊x⌋ := by
  rw [rne_def, if_pos h]

theorem rne_of_gt {x : ℚ} (h : 1 / 2 < x - (⌊x⌋ : ℚ)) : rne x = ⌊x⌋ + 1 := by
  rw [rne_def, if_neg (not_lt.mpr h.le), if_pos h]

theorem rne_of_eq {x : ℚ} (h : x - (⌊x⌋ : ℚ) = 1 / 2) :
    rne x = if ⌊x⌋ % 2 = 0 then ⌊x⌋ else ⌊x⌋ + 1 := by
  rw [rne_def, if_neg h.not_lt, if_neg h.not_gt]

theorem rne_intCast (n : Int) : rne (n : ℚ) = n := by
  rw [rne_of_lt (by rw [Int.floor_intCast, sub_self]; norm_num), Int.floor_intCast]

theorem rne_zero : rne 0 = 0 := by simpa using rne_intCast 0

theorem rne_abs_sub_le (x : ℚ) : |(rne x : ℚ) - x| ≤ 1 / 2 := by
  have h1 : (⌊x⌋ : ℚ) ≤ x := Int.floor_le x
  have h2 : x < (⌊x⌋ : ℚ) + 1 := Int.lt_floor_add_one x
  rw [rne_def, abs_le]
  split_ifs <;> push_cast <;> constructor <;> linarith

theorem rne_mono {x y : ℚ} (h : x ≤ y) : rne x ≤ rne y := by
  by_contra hc
  -- were `rne y < rne x`, then `y ≤ rne y + 1/2 ≤ rne x - 1/2 ≤ x ≤ y`, so `x = y`
  have hc' : (rne y : ℚ) + 1 ≤ rne x := by exact_mod_cast not_le.mp hc
  have hx := (abs_le.mp (rne_abs_sub_le x)).2
  have hy := (abs_le.mp (rne_abs_sub_le y)).1
  obtain rfl : x = y := by linarith
  exact hc le_rfl

theorem rne_le_of_lt_add_half {n : Int} {x : ℚ} (h : x < n + 1 / 2) : rne x ≤ n := by
  have hr := (abs_le.mp (rne_abs_sub_le x)).2
  have : ((rne x : Int) : ℚ) < ((n + 1 : Int) : ℚ) := by push_cast; linarith
  have : rne x < n + 1 := by exact_mod_cast this
  omega

theorem le_rne_of_sub_half_lt {n : Int} {x : ℚ} (h : (n : ℚ) - 1 / 2 < x) : n ≤ rne x := by
  have hr := (abs_le.mp (rne_abs_sub_le x)).1
  have : ((n - 1 : Int) : ℚ) < ((rne x : Int) : ℚ) := by push_cast; linarith
  have : n - 1 < rne x := by exact_mod_cast this
  omega

theorem rne_neg (x : ℚ) : rne (-x) = - rne x := by
  by_cases hx : (⌊x⌋ : ℚ) = x
  · rw [← hx, ← Int.cast_neg, rne_intCast, rne_intCast]
  · have h1 : (⌊x⌋ : ℚ) < x := lt_of_le_of_ne (Int.floor_le x) hx
    have h2 : x < (⌊x⌋ : ℚ) + 1 := Int.lt_floor_add_one x
    have hfn : ⌊-x⌋ = -⌊x⌋ - 1 := by
      rw [Int.floor_eq_iff]; push_cast; constructor <;> linarith
    have hr : -x - (⌊-x⌋ : ℚ) = 1 - (x - (⌊x⌋ : ℚ)) := by rw [hfn]; push_cast; ring
    rcases lt_trichotomy (x - (⌊x⌋ : ℚ)) (1 / 2) with h | h | h
    · rw [rne_of_lt h, rne_of_gt (by rw [hr]; linarith), hfn]; ring
    · rw [rne_of_eq h, rne_of_eq (by rw [hr, h]; norm_num), hfn]
      split_ifs <;> omega
    · rw [rne_of_gt h, rne_of_lt (by rw [hr]; linarith), hfn]; ring

theorem rne_le_two_mul {t : ℚ} (ht : 0 ≤ t) : (rne t : ℚ) ≤ 2 * t := by
  rcases lt_or_ge t (1 / 2) with h | h
  · have : (rne t : ℚ) ≤ (0 : Int) := by
      exact_mod_cast rne_le_of_lt_add_half (n := 0) (by push_cast; linarith)
    push_cast at this; linarith
  · have := (abs_le.mp (rne_abs_sub_le t)).2
    linarith

theorem le_rne_of_intCast_le {n : Int} {x : ℚ} (h : (n : ℚ) ≤ x) : n ≤ rne x :=
  (rne_intCast n).ge.trans (rne_mono h)

theorem rne_le_of_le_intCast {n : Int} {x : ℚ} (h : x ≤ (n : ℚ)) : rne x ≤ n :=
  (rne_mono h).trans_eq (rne_intCast n)

theorem rne_nonneg {x : ℚ} (h : 0 ≤ x) : 0 ≤ rne x := le_rne_of_intCast_le (by exact_mod_cast h)

theorem rne_nonpos {x : ℚ} (h : x ≤ 0) : rne x ≤ 0 := rne_le_of_le_intCast (by exact_mod_cast h)

theorem abs_rne_le {n : Int} {x : ℚ} (h : |x| ≤ n) : |rne x| ≤ n := by
  rw [abs_le] at h ⊢
  exact ⟨le_rne_of_intCast_le (by push_cast; exact h.1), rne_le_of_le_intCast h.2⟩

end Fan2go
