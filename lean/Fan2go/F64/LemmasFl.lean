/-
  Lemma interface for `Fan2go/F64/Basic.lean`, part B: the rounding function `flr`,
  representability `Rep`, monotonicity, idempotence, error bounds.
-/
import Fan2go.F64.LemmasBasic

namespace Fan2go

variable {prec : Nat} {emin : Int}

theorem ulpExp_def (prec : Nat) (emin : Int) (x : ℚ) :
    ulpExp prec emin x = max (ilog2 x) emin - ((prec : Int) - 1) := rfl

theorem flPos_def (prec : Nat) (emin : Int) (x : ℚ) :
    flPos prec emin x
      = (rne (x / pow2 (ulpExp prec emin x)) : ℚ) * pow2 (ulpExp prec emin x) := rfl

theorem flr_zero : flr prec emin 0 = 0 := by simp [flr]

theorem flr_of_pos {x : ℚ} (h : 0 < x) : flr prec emin x = flPos prec emin x := by
  simp [flr, h.ne', h]

theorem flr_of_neg {x : ℚ} (h : x < 0) : flr prec emin x = - flPos prec emin (-x) := by
  simp [flr, h.ne, not_lt.mpr h.le]

/-- `flr` without its sign cases: `rne` is odd, so the formula of `flPos` at the ulp of `|x|` serves
    every `x`. -/
theorem flr_eq_rne (prec : Nat) (emin : Int) (x : ℚ) :
    flr prec emin x
      = (rne (x / pow2 (ulpExp prec emin |x|)) : ℚ) * pow2 (ulpExp prec emin |x|) := by
  rcases lt_trichotomy x 0 with h | rfl | h
  · rw [flr_of_neg h, abs_of_neg h, flPos_def, neg_div, rne_neg, Int.cast_neg, neg_mul, neg_neg]
  · rw [flr_zero, zero_div, rne_zero, Int.cast_zero, zero_mul]
  · rw [flr_of_pos h, abs_of_pos h, flPos_def]

theorem flr_eq_rne_of_pos {x : ℚ} (h : 0 < x) :
    flr prec emin x
      = (rne (x / pow2 (ulpExp prec emin x)) : ℚ) * pow2 (ulpExp prec emin x) := by
  rw [flr_of_pos h, flPos_def]

theorem flr_neg (x : ℚ) : flr prec emin (-x) = - flr prec emin x := by
  rw [flr_eq_rne, flr_eq_rne, abs_neg, neg_div, rne_neg, Int.cast_neg, neg_mul]

theorem flr_nonneg {x : ℚ} (h : 0 ≤ x) : 0 ≤ flr prec emin x := by
  rw [flr_eq_rne]
  exact mul_nonneg (Int.cast_nonneg (rne_nonneg (div_nonneg h (pow2_nonneg _))))
    (pow2_nonneg _)

theorem flr_nonpos {x : ℚ} (h : x ≤ 0) : flr prec emin x ≤ 0 := by
  rw [flr_eq_rne]
  exact mul_nonpos_of_nonpos_of_nonneg
    (Int.cast_nonpos.mpr (rne_nonpos (div_nonpos_of_nonpos_of_nonneg h (pow2_nonneg _))))
    (pow2_nonneg _)

theorem flr_abs (x : ℚ) : flr prec emin |x| = |flr prec emin x| := by
  rcases le_total 0 x with h | h
  · rw [abs_of_nonneg h, abs_of_nonneg (flr_nonneg h)]
  · rw [abs_of_nonpos h, abs_of_nonpos (flr_nonpos h), flr_neg]

theorem ulpExp_ge (prec : Nat) (emin : Int) (x : ℚ) :
    emin - ((prec : Int) - 1) ≤ ulpExp prec emin x := by
  rw [ulpExp_def]; omega

theorem ulpExp_mono {x y : ℚ} (hx : 0 < x) (hxy : x ≤ y) :
    ulpExp prec emin x ≤ ulpExp prec emin y := by
  have := ilog2_mono hx hxy
  rw [ulpExp_def, ulpExp_def]; omega

theorem ulpExp_of_le {x : ℚ} (h : pow2 emin ≤ x) :
    ulpExp prec emin x = ilog2 x - ((prec : Int) - 1) := by
  have := (le_ilog2_iff ((pow2_pos _).trans_le h)).mpr h
  rw [ulpExp_def]; omega

theorem ulpExp_of_lt {x : ℚ} (hx : 0 < x) (h : x < pow2 emin) :
    ulpExp prec emin x = emin - ((prec : Int) - 1) := by
  have := (ilog2_lt_iff hx).mpr h
  rw [ulpExp_def]; omega

theorem abs_le_pow2_ulpExp (prec : Nat) (emin : Int) (x : ℚ) :
    |x| ≤ pow2 (ulpExp prec emin |x| + prec) := by
  refine (lt_pow2_ilog2_succ |x|).le.trans (pow2_mono ?_)
  rw [ulpExp_def]; omega

theorem flr_pow2_sandwich {x : ℚ} {a : Int} (hk : ulpExp prec emin |x| ≤ a) :
    (x ≤ pow2 a → flr prec emin x ≤ pow2 a) ∧ (pow2 a ≤ x → pow2 a ≤ flr prec emin x) := by
  have hp := pow2_pos (ulpExp prec emin |x|)
  rw [flr_eq_rne, pow2_eq_int_mul hk]
  constructor <;> intro h <;> refine mul_le_mul_of_nonneg_right ?_ hp.le
  · exact_mod_cast rne_le_of_le_intCast ((div_le_iff₀ hp).mpr h)
  · exact_mod_cast le_rne_of_intCast_le ((le_div_iff₀ hp).mpr h)

theorem flr_mono_of_pos (hp : 1 ≤ prec) {x y : ℚ} (hx : 0 < x) (hxy : x ≤ y) :
    flr prec emin x ≤ flr prec emin y := by
  have hy : 0 < y := lt_of_lt_of_le hx hxy
  have hk := ulpExp_mono (prec := prec) (emin := emin) hx hxy
  rcases eq_or_lt_of_le hk with heq | hlt
  · rw [flr_eq_rne_of_pos hx, flr_eq_rne_of_pos hy, ← heq]
    have hkp := pow2_pos (ulpExp prec emin x)
    exact mul_le_mul_of_nonneg_right
      (by exact_mod_cast rne_mono (div_le_div_of_nonneg_right hxy hkp.le)) hkp.le
  · obtain ⟨_, sx2⟩ := ilog2_spec hx
    obtain ⟨sy1, _⟩ := ilog2_spec hy
    have hp' : (1 : Int) ≤ (prec : Int) := by exact_mod_cast hp
    rw [ulpExp_def, ulpExp_def] at hlt
    -- `x ≤ 2^a ≤ 2^(ilog2 y) ≤ y`, the one power of two on the grid of `x`, the other on that of
    -- `y`: rounding crosses neither
    have hxb : x ≤ pow2 (max (ilog2 x) emin + 1) :=
      sx2.le.trans (pow2_mono (by omega))
    have h1 : flr prec emin x ≤ pow2 (max (ilog2 x) emin + 1) :=
      (flr_pow2_sandwich (by rw [abs_of_pos hx, ulpExp_def]; omega)).1 hxb
    have h2 : pow2 (max (ilog2 x) emin + 1) ≤ pow2 (ilog2 y) := pow2_mono (by omega)
    have h3 : pow2 (ilog2 y) ≤ flr prec emin y :=
      (flr_pow2_sandwich (by rw [abs_of_pos hy, ulpExp_def]; omega)).2 sy1
    exact h1.trans (h2.trans h3)

theorem flr_mono (hp : 1 ≤ prec) {x y : ℚ} (h : x ≤ y) :
    flr prec emin x ≤ flr prec emin y := by
  rcases lt_or_ge 0 x with hx | hx
  · exact flr_mono_of_pos hp hx h
  · rcases lt_or_ge y 0 with hy | hy
    · have := flr_mono_of_pos (emin := emin) hp (neg_pos.mpr hy) (neg_le_neg h)
      rwa [flr_neg, flr_neg, neg_le_neg_iff] at this
    · exact (flr_nonpos hx).trans (flr_nonneg hy)

/-- `q` is a value of the floating-point format `(prec, emin)` (unbounded above). -/
def Rep (prec : Nat) (emin : Int) (q : ℚ) : Prop := flr prec emin q = q

abbrev Rep64 := Rep 53 (-1022)
abbrev Rep32 := Rep 24 (-126)

theorem Rep.flr_eq {q : ℚ} (h : Rep prec emin q) : flr prec emin q = q := h

theorem rep_zero : Rep prec emin 0 := flr_zero

theorem Rep.neg {q : ℚ} (h : Rep prec emin q) : Rep prec emin (-q) := by
  unfold Rep at *; rw [flr_neg, h]

theorem rep_neg_iff {q : ℚ} : Rep prec emin (-q) ↔ Rep prec emin q :=
  ⟨fun h => by simpa using h.neg, Rep.neg⟩

/- Two shapes of a value recur below. *Form*: `n·2^k` with `|n| ≤ 2^prec` and `k` at least
   `emin - (prec - 1)`, the exponent of the least subnormal (−1074, −149): what `flr` returns and what
   is representable. *Grid*: `N·2^k` with `N` any integer: a representable value lies on the grid of
   every exponent up to that of its own ulp. -/

/-- `|n| = 2 ^ prec` occurs: rounding up from the top of a binade carries into the next. -/
theorem flr_form (prec : Nat) (emin : Int) (x : ℚ) :
    ∃ n : Int, |n| ≤ 2 ^ prec ∧
      flr prec emin x = (n : ℚ) * pow2 (ulpExp prec emin |x|) := by
  refine ⟨_, abs_rne_le ?_, flr_eq_rne prec emin x⟩
  rw [abs_div, abs_of_pos (pow2_pos _), div_le_iff₀ (pow2_pos _), ← pow2_add_natCast]
  exact abs_le_pow2_ulpExp prec emin x

theorem grid_of_form (hp : 1 ≤ prec) {n k : Int} (hn0 : 0 < n) (hn : n ≤ 2 ^ prec)
    (hk : emin - ((prec : Int) - 1) ≤ k) {q : ℚ} (hqdef : q = (n : ℚ) * pow2 k) :
    ∃ N : Int, q = (N : ℚ) * pow2 (ulpExp prec emin q) := by
  have hq : 0 < q := by rw [hqdef]; exact mul_pos (by exact_mod_cast hn0) (pow2_pos k)
  rcases le_or_gt (ulpExp prec emin q) k with hle | hgt
  · exact ⟨n * (2 : Int) ^ (k - ulpExp prec emin q).toNat,
      hqdef.trans (by rw [pow2_eq_int_mul hle]; push_cast; ring)⟩
  · -- the ulp is coarser than `2^k` only after a carry: `n = 2^prec`, the value is `2^(k+prec)`
    obtain ⟨s1, _⟩ := ilog2_spec hq
    have hp' : (1 : Int) ≤ (prec : Int) := by exact_mod_cast hp
    have hK := ulpExp_def prec emin q
    have hqle : q ≤ pow2 (k + prec) := by
      rw [pow2_add_natCast, hqdef]
      exact mul_le_mul_of_nonneg_right (by exact_mod_cast hn) (pow2_nonneg k)
    have he : ilog2 q ≤ k + prec := pow2_le_iff.mp (s1.trans hqle)
    have hge : pow2 (k + prec) ≤ q := (pow2_mono (by omega)).trans s1
    exact ⟨_, (le_antisymm hqle hge).trans (pow2_eq_int_mul (by omega))⟩

theorem rep_of_form (hp : 1 ≤ prec) {n k : Int} (hn : |n| ≤ 2 ^ prec)
    (hk : emin - ((prec : Int) - 1) ≤ k) : Rep prec emin ((n : ℚ) * pow2 k) := by
  have pos : ∀ {m : Int}, 0 < m → m ≤ 2 ^ prec → Rep prec emin ((m : ℚ) * pow2 k) := by
    intro m h0 hm
    obtain ⟨N, hN⟩ := grid_of_form (emin := emin) hp h0 hm hk rfl
    unfold Rep
    rw [flr_eq_rne_of_pos (mul_pos (by exact_mod_cast h0) (pow2_pos k))]
    generalize ulpExp prec emin ((m : ℚ) * pow2 k) = K at hN ⊢
    rw [hN, mul_div_assoc, div_self (pow2_ne_zero _), mul_one, rne_intCast]
  rcases lt_trichotomy n 0 with h | h | h
  · have := (pos (m := -n) (by omega) (by have := neg_le_abs n; omega)).neg
    rwa [Int.cast_neg, neg_mul, neg_neg] at this
  · subst h; rw [Int.cast_zero, zero_mul]; exact rep_zero
  · exact pos h ((le_abs_self n).trans hn)

theorem flr_idem (hp : 1 ≤ prec) (x : ℚ) :
    flr prec emin (flr prec emin x) = flr prec emin x := by
  obtain ⟨n, hn, hf⟩ := flr_form prec emin x
  rw [hf]
  exact rep_of_form hp hn (ulpExp_ge _ _ _)

theorem rep_flr (hp : 1 ≤ prec) (x : ℚ) : Rep prec emin (flr prec emin x) := flr_idem hp x

theorem Rep.form {q : ℚ} (hq : Rep prec emin q) :
    ∃ n : Int, |n| ≤ 2 ^ prec ∧ q = (n : ℚ) * pow2 (ulpExp prec emin |q|) := by
  obtain ⟨n, hn, hf⟩ := flr_form prec emin q
  exact ⟨n, hn, hq.symm.trans hf⟩

theorem rep_iff (hp : 1 ≤ prec) {q : ℚ} :
    Rep prec emin q ↔
      ∃ n k : Int, |n| ≤ 2 ^ prec ∧ emin - ((prec : Int) - 1) ≤ k ∧ q = (n : ℚ) * pow2 k := by
  constructor
  · intro hq
    obtain ⟨n, hn, hf⟩ := hq.form
    exact ⟨n, _, hn, ulpExp_ge _ _ _, hf⟩
  · rintro ⟨n, k, hn, hk, rfl⟩
    exact rep_of_form hp hn hk

theorem rep_of_grid (hp : 1 ≤ prec) {N k : Int} {q : ℚ} (hk : emin - ((prec : Int) - 1) ≤ k)
    (hq : q = (N : ℚ) * pow2 k) (hb : |q| ≤ pow2 (k + prec)) : Rep prec emin q := by
  rw [hq] at hb ⊢
  rw [abs_mul, abs_of_pos (pow2_pos k), pow2_add_natCast,
    mul_le_mul_iff_of_pos_right (pow2_pos k)] at hb
  exact rep_of_form hp (by exact_mod_cast hb) hk

theorem rep_intCast (hp : 1 ≤ prec) (he : emin ≤ 0) (n : Int) (h : |n| ≤ 2 ^ prec) :
    Rep prec emin (n : ℚ) := by
  have hp' : (1 : Int) ≤ (prec : Int) := by exact_mod_cast hp
  have := rep_of_form (emin := emin) (k := 0) hp h (by omega)
  rwa [pow2_zero, mul_one] at this

theorem rep_natCast (hp : 1 ≤ prec) (he : emin ≤ 0) (n : Nat) (h : n ≤ 2 ^ prec) :
    Rep prec emin (n : ℚ) := by
  have := rep_intCast hp he (n : Int) (by rw [abs_of_nonneg (by positivity)]; exact_mod_cast h)
  exact_mod_cast this

/-- false for `prec = 0`: `flr 0 emin (pow2 e) = 0`. -/
theorem rep_pow2 (hp : 1 ≤ prec) (e : Int) (h : emin - ((prec : Int) - 1) ≤ e) :
    Rep prec emin (pow2 e) := by
  have h1 : |(1 : Int)| ≤ 2 ^ prec := by
    rw [abs_one]; exact one_le_pow₀ (by norm_num)
  have := rep_of_form (emin := emin) hp h1 h
  rwa [Int.cast_one, one_mul] at this

theorem rep_one (hp : 1 ≤ prec) (he : emin ≤ 0) : Rep prec emin 1 := by
  have := rep_intCast (emin := emin) hp he 1 (by rw [abs_one]; exact one_le_pow₀ (by norm_num))
  exact_mod_cast this

theorem Rep.grid_le {q : ℚ} (hq : Rep prec emin q) {k : Int}
    (hk : k ≤ ulpExp prec emin |q|) : ∃ N : Int, q = (N : ℚ) * pow2 k := by
  obtain ⟨n, _, hf⟩ := hq.form
  refine ⟨n * (2 : Int) ^ (ulpExp prec emin |q| - k).toNat, ?_⟩
  conv_lhs => rw [hf, pow2_eq_int_mul hk]
  push_cast; ring

theorem Rep.grid {q : ℚ} (hq : Rep prec emin q) :
    ∃ N : Int, q = (N : ℚ) * pow2 (emin - ((prec : Int) - 1)) :=
  hq.grid_le (ulpExp_ge _ _ _)

theorem grid_add_le {A B : Int} {g : ℚ} (hg : 0 < g) (h : (A : ℚ) * g < B * g) :
    (A : ℚ) * g + g ≤ B * g := by
  have : (A : ℚ) + 1 ≤ B := by exact_mod_cast lt_of_mul_lt_mul_right h hg.le
  linarith [mul_le_mul_of_nonneg_right this hg.le]

theorem grid_pos_ge {N : Int} {g q : ℚ} (hg : 0 < g) (hq : q = (N : ℚ) * g) (h : 0 < q) : g ≤ q := by
  have := grid_add_le (A := 0) (B := N) hg (by rwa [Int.cast_zero, zero_mul, ← hq])
  rwa [Int.cast_zero, zero_mul, zero_add, ← hq] at this

theorem Rep.pos_ge {s : ℚ} (hs : Rep prec emin s) (h : 0 < s) :
    pow2 (emin - ((prec : Int) - 1)) ≤ s := by
  obtain ⟨N, hN⟩ := hs.grid
  exact grid_pos_ge (pow2_pos _) hN h

theorem flr_le_of_le_rep (hp : 1 ≤ prec) {x r : ℚ} (hr : Rep prec emin r) (h : x ≤ r) :
    flr prec emin x ≤ r := (flr_mono hp h).trans_eq hr.flr_eq

theorem le_flr_of_rep_le (hp : 1 ≤ prec) {x r : ℚ} (hr : Rep prec emin r) (h : r ≤ x) :
    r ≤ flr prec emin x := hr.flr_eq.ge.trans (flr_mono hp h)

theorem flr_le_of_lt_half_ulp (hp : 1 ≤ prec) {s z : ℚ} (hs : Rep prec emin s) (hs0 : 0 < s)
    (hz : z < s + pow2 (ulpExp prec emin s) / 2) : flr prec emin z ≤ s := by
  rcases le_or_gt z s with hzs | hzs
  · exact flr_le_of_le_rep hp hs hzs
  have hzpos : 0 < z := hs0.trans hzs
  obtain ⟨se1, se2⟩ := ilog2_spec hs0
  obtain ⟨n, -, hsn⟩ := hs.form
  rw [abs_of_pos hs0] at hsn
  have hkdef := ulpExp_def prec emin s
  generalize ulpExp prec emin s = ks at hsn hkdef hz
  generalize he : ilog2 s = e at se1 se2 hkdef
  have hkp := pow2_pos ks
  have hkse : ks ≤ e := by
    have := (le_ilog2_iff hs0).mpr (grid_pos_ge hkp hsn hs0)
    omega
  -- `2^(e+1)` is on the grid of `s`, so the grid point after `s` does not exceed it
  have hstep : s + pow2 ks ≤ pow2 (e + 1) := by
    rw [pow2_eq_int_mul (a := e + 1) (k := ks) (by omega)] at se2 ⊢
    rw [hsn] at se2 ⊢
    exact grid_add_le hkp se2
  -- hence `z` lies in the binade of `s` and is rounded on the same grid
  have hze : ilog2 z = e := ilog2_unique (by linarith) (by linarith)
  have hkz : ulpExp prec emin z = ks := by rw [ulpExp_def, hze, hkdef]
  rw [flr_eq_rne_of_pos hzpos, hkz, hsn]
  refine mul_le_mul_of_nonneg_right ?_ hkp.le
  have : rne (z / pow2 ks) ≤ n := rne_le_of_lt_add_half (by
    rw [div_lt_iff₀ hkp]; rw [hsn] at hz; linarith)
  exact_mod_cast this

/-- A quarter of the unit in the last place of `s`, where `flr_le_of_lt_half_ulp` has half: when `s`
    is a power of two, the inputs just below it are rounded on the grid of half that spacing. -/
theorem le_flr_of_gt_sub_quarter_ulp (hp : 1 ≤ prec) {s z : ℚ} (hs : Rep prec emin s)
    (hs0 : 0 < s) (hz : s - pow2 (ulpExp prec emin s) / 4 < z) : s ≤ flr prec emin z := by
  rcases le_or_gt s z with hsz | hzs
  · exact le_flr_of_rep_le hp hs hsz
  have ha := abs_of_pos hs0
  obtain ⟨n, hsn⟩ := hs.grid_le (k := ulpExp prec emin s) (by rw [ha])
  have hgs := grid_pos_ge (pow2_pos _) hsn hs0
  have hzpos : 0 < z := by linarith
  -- `s / 2 ≤ z < s`: the grid `g ℤ` on which `z` is rounded has the spacing of `s` or half of it
  have hk : ulpExp prec emin s - 1 ≤ ulpExp prec emin z := by
    have := (le_ilog2_iff hzpos (e := ilog2 s - 1)).mpr (by
      rw [pow2_pred]; linarith [(ilog2_spec hs0).1])
    rw [ulpExp_def, ulpExp_def]; omega
  have hg := pow2_mono hk
  rw [pow2_pred] at hg
  -- `s` lies on that grid, less than `g / 2` above `z`
  obtain ⟨N, hN⟩ := hs.grid_le ((ulpExp_mono hzpos hzs.le).trans_eq (by rw [ha]))
  have hgp := pow2_pos (ulpExp prec emin z)
  rw [flr_eq_rne_of_pos hzpos]
  refine hN.trans_le (mul_le_mul_of_nonneg_right ?_ hgp.le)
  exact_mod_cast le_rne_of_sub_half_lt (by rw [lt_div_iff₀ hgp, sub_mul, ← hN]; linarith)

theorem abs_flr_le_of_abs_le_rep (hp : 1 ≤ prec) {x r : ℚ} (hr : Rep prec emin r)
    (h : |x| ≤ r) : |flr prec emin x| ≤ r := by
  rw [abs_le] at h ⊢
  exact ⟨le_flr_of_rep_le hp hr.neg h.1, flr_le_of_le_rep hp hr h.2⟩

theorem flr_abs_sub_le_ulp (x : ℚ) :
    |flr prec emin x - x| ≤ pow2 (ulpExp prec emin |x|) / 2 := by
  have h := rne_abs_sub_le (x / pow2 (ulpExp prec emin |x|))
  rw [flr_eq_rne]
  generalize ulpExp prec emin |x| = k at h ⊢
  have hk := pow2_pos k
  calc |(rne (x / pow2 k) : ℚ) * pow2 k - x|
      = |((rne (x / pow2 k) : ℚ) - x / pow2 k) * pow2 k| := by
        rw [sub_mul, div_mul_cancel₀ _ hk.ne']
    _ = |(rne (x / pow2 k) : ℚ) - x / pow2 k| * pow2 k := by rw [abs_mul, abs_of_pos hk]
    _ ≤ 1 / 2 * pow2 k := mul_le_mul_of_nonneg_right h hk.le
    _ = pow2 k / 2 := by ring

theorem flr_rel_err {x : ℚ} (h : pow2 emin ≤ |x|) :
    |flr prec emin x - x| ≤ pow2 (-(prec : Int)) * |x| := by
  have hpos : 0 < |x| := lt_of_lt_of_le (pow2_pos _) h
  refine (flr_abs_sub_le_ulp x).trans ?_
  rw [ulpExp_of_le h, ← pow2_pred,
    show ilog2 |x| - ((prec : Int) - 1) - 1 = -(prec : Int) + ilog2 |x| by ring, pow2_add]
  exact mul_le_mul_of_nonneg_left (ilog2_spec hpos).1 (pow2_nonneg _)

/-- `_sub` for subnormal: below `2^emin` the ulp no longer shrinks with `x`, and the bound is
    absolute. -/
theorem flr_abs_err_sub (x : ℚ) (h : |x| < pow2 emin) :
    |flr prec emin x - x| ≤ pow2 (emin - prec) := by
  by_cases hx : x = 0
  · subst hx; rw [flr_zero, sub_zero, abs_zero]; exact pow2_nonneg _
  · refine (flr_abs_sub_le_ulp x).trans ?_
    rw [ulpExp_of_lt (abs_pos.mpr hx) h, ← pow2_pred]
    exact pow2_mono (by omega)

theorem flr_abs_err (x : ℚ) :
    |flr prec emin x - x| ≤ pow2 (-(prec : Int)) * |x| + pow2 (emin - prec) := by
  rcases le_or_gt (pow2 emin) |x| with h | h
  · have := flr_rel_err (prec := prec) (emin := emin) h
    have := pow2_nonneg (emin - prec)
    linarith
  · have := flr_abs_err_sub (prec := prec) (emin := emin) x h
    have : 0 ≤ pow2 (-(prec : Int)) * |x| := mul_nonneg (pow2_nonneg _) (abs_nonneg _)
    linarith

theorem flr_le_two_mul {y : ℚ} (hy : 0 < y) : flr prec emin y ≤ 2 * y := by
  have hk := pow2_pos (ulpExp prec emin y)
  have h := rne_le_two_mul (div_nonneg hy.le hk.le)
  rw [flr_eq_rne_of_pos hy]
  calc _ ≤ 2 * (y / pow2 (ulpExp prec emin y)) * pow2 (ulpExp prec emin y) :=
        mul_le_mul_of_nonneg_right h hk.le
    _ = 2 * y := by rw [mul_assoc, div_mul_cancel₀ _ hk.ne']

theorem rep_mul_pow2 (hp : 1 ≤ prec) {d : ℚ} {j : Int} (hd : Rep prec emin d)
    (h : emin - ((prec : Int) - 1) ≤ ulpExp prec emin |d| + j) : Rep prec emin (d * pow2 j) := by
  obtain ⟨n, hn, hf⟩ := hd.form
  rw [show d * pow2 j = (n : ℚ) * pow2 (ulpExp prec emin |d| + j) by
    rw [pow2_add, ← mul_assoc, ← hf]]
  exact rep_of_form hp hn h

theorem rep_two_mul (hp : 1 ≤ prec) {d : ℚ} (hd : Rep prec emin d) : Rep prec emin (2 * d) := by
  have := rep_mul_pow2 (j := 1) hp hd (by have := ulpExp_ge prec emin |d|; omega)
  rwa [pow2_one, mul_comm] at this

theorem rep_half (hp : 1 ≤ prec) {d : ℚ} (hd : Rep prec emin d) (h : pow2 (emin + 1) ≤ |d|) :
    Rep prec emin (d / 2) := by
  have he := (le_ilog2_iff ((pow2_pos _).trans_le h)).mpr h
  have := rep_mul_pow2 (j := -1) hp hd (by rw [ulpExp_def]; omega)
  rwa [pow2_neg, pow2_one, ← div_eq_mul_inv] at this

/-- every multiple of the smallest subnormal of magnitude `≤ 2^(emin+1)` is representable;
    in particular a small difference of representable numbers is. -/
theorem rep_sub_small (hp : 1 ≤ prec) {x a : ℚ} (hx : Rep prec emin x) (ha : Rep prec emin a)
    (h : |x - a| < pow2 (emin + 1)) : Rep prec emin (x - a) := by
  obtain ⟨N1, h1⟩ := hx.grid
  obtain ⟨N2, h2⟩ := ha.grid
  refine rep_of_grid hp (N := N1 - N2) le_rfl (by rw [Int.cast_sub, sub_mul, ← h1, ← h2])
    (h.le.trans_eq ?_)
  congr 1; ring

theorem rep_sub_of_le (hp : 1 ≤ prec) {x y : ℚ} (hx : Rep prec emin x) (hy : Rep prec emin y)
    (h0 : 0 < y) (hyx : y ≤ x) (hx2 : x ≤ 2 * y) : Rep prec emin (x - y) := by
  have hx0 : 0 < x := lt_of_lt_of_le h0 hyx
  have hk : ulpExp prec emin |y| ≤ ulpExp prec emin |x| := by
    rw [abs_of_pos h0, abs_of_pos hx0]; exact ulpExp_mono h0 hyx
  -- both on the grid of `y`, and `0 ≤ x - y ≤ y`
  obtain ⟨Ny, hfy⟩ := hy.grid_le le_rfl
  obtain ⟨Nx, hfx⟩ := hx.grid_le hk
  refine rep_of_grid hp (N := Nx - Ny) (ulpExp_ge prec emin |y|)
    (by rw [Int.cast_sub, sub_mul, ← hfx, ← hfy]) ((abs_le_pow2_ulpExp prec emin y).trans' ?_)
  rw [abs_of_nonneg (sub_nonneg.mpr hyx), abs_of_pos h0]
  linarith

theorem rep_sub_sterbenz (hp : 1 ≤ prec) {x y : ℚ} (hx : Rep prec emin x)
    (hy : Rep prec emin y) (h1 : y / 2 ≤ x) (h2 : x ≤ 2 * y) : Rep prec emin (x - y) := by
  have hy0 : 0 ≤ y := by linarith
  rcases eq_or_lt_of_le hy0 with h0 | h0
  · subst h0
    have : x = 0 := by linarith
    subst this; rw [sub_zero]; exact rep_zero
  · rcases le_total y x with hle | hle
    · exact rep_sub_of_le hp hx hy h0 hle h2
    · have hx0 : 0 < x := by linarith
      have := (rep_sub_of_le hp hy hx hx0 hle (by linarith)).neg
      rwa [neg_sub] at this

theorem rep_of_rep_le {prec' : Nat} {emin' : Int} (hp : 1 ≤ prec) (hpp : prec ≤ prec')
    (hee : emin' - ((prec' : Int) - 1) ≤ emin - ((prec : Int) - 1)) {q : ℚ}
    (h : Rep prec emin q) : Rep prec' emin' q := by
  obtain ⟨n, k, hn, hk, rfl⟩ := (rep_iff hp).mp h
  refine rep_of_form (hp.trans hpp) (hn.trans ?_) (hee.trans hk)
  exact pow_le_pow_right₀ (by norm_num) hpp

theorem rep32_rep64 {q : ℚ} (h : Rep32 q) : Rep64 q :=
  rep_of_rep_le (by norm_num) (by norm_num) (by norm_num) h

end Fan2go
