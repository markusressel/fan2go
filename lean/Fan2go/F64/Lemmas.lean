/-
  Lemma interface for `Fan2go/F64/Basic.lean`, part C: the lemmas of `LemmasFl` at the two formats
  (`fl64`, `fl32`), bounds stated with numerals, `F64.ofRat`, and the finite binary64 values `Fin64`.
  Among them the two facts about the `float32` hop on which the interpolation rests: it takes what is
  near a binary32 value to that value (`fl32_le_of_near` and its mirror), also after a binary64 sum
  (`fl32_fl64_add_le`). Only the three standard axioms are used (audit block at the end).
-/
import Fan2go.F64.LemmasFl

namespace Fan2go

theorem fl64_def (x : ℚ) : fl64 x = flr 53 (-1022) x := rfl
theorem fl32_def (x : ℚ) : fl32 x = flr 24 (-126) x := rfl

theorem rep64_iff_fl64 {q : ℚ} : Rep64 q ↔ fl64 q = q := Iff.rfl
theorem rep32_iff_fl32 {q : ℚ} : Rep32 q ↔ fl32 q = q := Iff.rfl

theorem fl64_zero : fl64 0 = 0 := flr_zero
theorem fl64_neg (x : ℚ) : fl64 (-x) = - fl64 x := flr_neg x
theorem fl64_nonneg {x : ℚ} (h : 0 ≤ x) : 0 ≤ fl64 x := flr_nonneg h
theorem fl64_nonpos {x : ℚ} (h : x ≤ 0) : fl64 x ≤ 0 := flr_nonpos h
theorem fl64_mono {x y : ℚ} (h : x ≤ y) : fl64 x ≤ fl64 y := flr_mono (by norm_num) h
theorem fl64_idem (x : ℚ) : fl64 (fl64 x) = fl64 x := flr_idem (by norm_num) x
theorem rep64_fl64 (x : ℚ) : Rep64 (fl64 x) := fl64_idem x
theorem rep64_0 : Rep64 (0 : ℚ) := fl64_zero
theorem fl64_of_rep {q : ℚ} (h : Rep64 q) : fl64 q = q := h
theorem fl32_of_rep {q : ℚ} (h : Rep32 q) : fl32 q = q := h
theorem fl64_abs (x : ℚ) : fl64 |x| = |fl64 x| := flr_abs x

theorem rep64_intCast (n : Int) (h : |n| ≤ 2 ^ 53) : Rep64 (n : ℚ) :=
  rep_intCast (by norm_num) (by norm_num) n h

theorem fl64_intCast (n : Int) (h : |n| ≤ 2 ^ 53) : fl64 (n : ℚ) = n := rep64_intCast n h

theorem fl64_natCast (n : Nat) (h : n ≤ 2 ^ 53) : fl64 (n : ℚ) = n :=
  rep_natCast (by norm_num) (by norm_num) n h

theorem fl64_one : fl64 1 = 1 := rep_one (by norm_num) (by norm_num)

theorem rep64_pow2 (e : Int) (h : -1074 ≤ e) : Rep64 (pow2 e) :=
  rep_pow2 (by norm_num) e (by norm_num; exact h)

theorem fl64_pow2 (e : Int) (h : -1074 ≤ e) : fl64 (pow2 e) = pow2 e := rep64_pow2 e h

theorem fl64_le_of_le_rep {x r : ℚ} (hr : Rep64 r) (h : x ≤ r) : fl64 x ≤ r :=
  flr_le_of_le_rep (by norm_num) hr h

theorem le_fl64_of_rep_le {x r : ℚ} (hr : Rep64 r) (h : r ≤ x) : r ≤ fl64 x :=
  le_flr_of_rep_le (by norm_num) hr h

theorem abs_fl64_le_of_abs_le_rep {x r : ℚ} (hr : Rep64 r) (h : |x| ≤ r) : |fl64 x| ≤ r :=
  abs_flr_le_of_abs_le_rep (by norm_num) hr h

theorem fl64_div_mem_unit {a b : ℚ} (h0 : 0 ≤ a) (hab : a ≤ b) :
    0 ≤ fl64 (a / b) ∧ fl64 (a / b) ≤ 1 :=
  have hb : 0 ≤ b := h0.trans hab
  ⟨fl64_nonneg (div_nonneg h0 hb), fl64_le_of_le_rep fl64_one (div_le_one_of_le₀ hab hb)⟩

theorem fl64_unit_mul_mem {r d : ℚ} (hr0 : 0 ≤ r) (hr1 : r ≤ 1) (hd : Rep64 d) (hd0 : 0 ≤ d) :
    0 ≤ fl64 (r * d) ∧ fl64 (r * d) ≤ d :=
  ⟨fl64_nonneg (mul_nonneg hr0 hd0), fl64_le_of_le_rep hd (mul_le_of_le_one_left hd0 hr1)⟩

theorem fl64_unit_mul_bounds {r d : ℚ} (hr0 : 0 ≤ r) (hr1 : r ≤ 1) (hd : Rep64 d) :
    min 0 d ≤ fl64 (r * d) ∧ fl64 (r * d) ≤ max 0 d := by
  rcases le_total 0 d with h | h
  · rw [min_eq_left h, max_eq_right h]
    exact fl64_unit_mul_mem hr0 hr1 hd h
  · rw [min_eq_right h, max_eq_left h]
    exact ⟨le_fl64_of_rep_le hd (le_mul_of_le_one_left h hr1),
      fl64_nonpos (mul_nonpos_of_nonneg_of_nonpos hr0 h)⟩

theorem fl64_rel_err {x : ℚ} (h : pow2 (-1022) ≤ |x|) : |fl64 x - x| ≤ pow2 (-53) * |x| :=
  flr_rel_err (prec := 53) h

theorem fl64_abs_err_sub (x : ℚ) (h : |x| < pow2 (-1022)) : |fl64 x - x| ≤ pow2 (-1075) :=
  flr_abs_err_sub (prec := 53) (emin := -1022) x h

theorem fl64_abs_err (x : ℚ) : |fl64 x - x| ≤ pow2 (-53) * |x| + pow2 (-1075) :=
  flr_abs_err (prec := 53) (emin := -1022) x

theorem fl64_le_two_mul {y : ℚ} (hy : 0 < y) : fl64 y ≤ 2 * y :=
  flr_le_two_mul (prec := 53) hy

theorem fl64_sub_sterbenz {x y : ℚ} (hx : Rep64 x) (hy : Rep64 y) (h1 : y / 2 ≤ x)
    (h2 : x ≤ 2 * y) : fl64 (x - y) = x - y :=
  rep_sub_sterbenz (by norm_num) hx hy h1 h2

/-- `rep_half`, `rep_sub_small` with the binary64 exponents written out: at a `Rep64`
    call site the general ones make Lean unify `pow2 (-1022 + 1)` with `pow2 (-1021)` by unfolding. -/
theorem rep64_half {d : ℚ} (hd : Rep64 d) (h : pow2 (-1021) ≤ |d|) : Rep64 (d / 2) :=
  rep_half (by norm_num) hd h

theorem rep64_sub_small {x a : ℚ} (hx : Rep64 x) (ha : Rep64 a) (h : |x - a| < pow2 (-1021)) :
    Rep64 (x - a) :=
  rep_sub_small (by norm_num) hx ha h

/-- Gradual underflow: below `2^-1021` the difference is itself a binary64 value. -/
theorem fl64_sub_pos_of_rep {a b : ℚ} (ha : Rep64 a) (hb : Rep64 b) (h : a < b) :
    0 < fl64 (b - a) := by
  have hpos : 0 < b - a := sub_pos.mpr h
  rcases lt_or_ge (b - a) (pow2 (-1021)) with h' | h'
  · rwa [fl64_of_rep (rep64_sub_small hb ha (by rwa [abs_of_pos hpos]))]
  · exact (pow2_pos _).trans_le (le_fl64_of_rep_le (rep64_pow2 _ (by norm_num)) h')

/-- numerals: `rep64_ofNat 255 (by norm_num) : Rep64 (255 : ℚ)`. -/
theorem rep64_ofNat (n : Nat) [n.AtLeastTwo] (h : n ≤ 2 ^ 53) : Rep64 (OfNat.ofNat n : ℚ) := by
  rw [← Nat.cast_ofNat (R := ℚ)]
  exact rep_natCast (by norm_num) (by norm_num) n h

theorem abs_fl64_le_two_pow {x : ℚ} (n : Nat) (h : |x| ≤ 2 ^ n) : |fl64 x| ≤ 2 ^ n := by
  rw [← pow2_natCast_rat] at h ⊢
  exact abs_fl64_le_of_abs_le_rep (rep64_pow2 _ (by omega)) h

theorem abs_fl64_le_two_mul (x : ℚ) : |fl64 x| ≤ 2 * |x| := by
  rcases eq_or_lt_of_le (abs_nonneg x) with h | h
  · rw [abs_eq_zero.mp h.symm, fl64_zero]; simp
  · rw [← fl64_abs]; exact fl64_le_two_mul h

/-- With `M` a constant, an error analysis that uses this form stays linear. -/
theorem fl64_err_le {z M : ℚ} (hz : |z| ≤ M) : |fl64 z - z| ≤ pow2 (-53) * M + pow2 (-1075) :=
  (fl64_abs_err z).trans
    (add_le_add_left (mul_le_mul_of_nonneg_left hz (pow2_nonneg _)) _)

theorem fl64_near {z y M δ : ℚ} (hz : |z| ≤ M) (hzy : |z - y| ≤ δ) :
    |fl64 z - y| ≤ pow2 (-53) * M + pow2 (-1075) + δ := by
  have := fl64_err_le hz
  have := abs_sub_le (fl64 z) z y
  linarith

/-- `fl64_near` with the constants as numerals (`pow2 (-1075)` weakened to `1 / 2 ^ 100`), so that
    `norm_num` can add up the error budget of a chain of operations. -/
theorem fl64_near_num {z y M δ : ℚ} (hz : |z| ≤ M) (hzy : |z - y| ≤ δ) :
    |fl64 z - y| ≤ M / 2 ^ 53 + 1 / 2 ^ 100 + δ := by
  have := fl64_near hz hzy
  have h : pow2 (-1075) ≤ pow2 (-(100 : Nat)) := pow2_mono (by norm_num)
  rw [pow2_neg_natCast] at h
  rw [pow2_m53] at this
  linarith

theorem fl64_err_num {z M δ : ℚ} (hz : |z| ≤ M) (hδ : M / 2 ^ 53 + 1 / 2 ^ 100 ≤ δ) :
    |fl64 z - z| ≤ δ :=
  (fl64_near_num hz (δ := 0) (by simp)).trans (by linarith)

theorem fl64_add_close {a b a' b' M A B δ : ℚ} (hM : |a + b| ≤ M) (ha : |a - a'| ≤ A)
    (hb : |b - b'| ≤ B) (hδ : M / 2 ^ 53 + 1 / 2 ^ 100 + (A + B) ≤ δ) :
    |fl64 (a + b) - (a' + b')| ≤ δ :=
  (fl64_near_num hM (by
    rw [show a + b - (a' + b') = (a - a') + (b - b') by ring]; exact abs_add_le' ha hb)).trans hδ

theorem fl64_mul_close {g v g' v' M G V D δ : ℚ} (hM : |g * v| ≤ M) (hg : |g - g'| ≤ G)
    (hv : |v| ≤ V) (hd : |v - v'| ≤ D) (hg' : 0 ≤ g')
    (hδ : M / 2 ^ 53 + 1 / 2 ^ 100 + (G * V + g' * D) ≤ δ) :
    |fl64 (g * v) - g' * v'| ≤ δ :=
  (fl64_near_num hM (by
    rw [show g * v - g' * v' = (g - g') * v + g' * (v - v') by ring]
    exact abs_add_le' (abs_mul_le' hg hv) (abs_mul_le' (abs_of_nonneg hg').le hd))).trans hδ

theorem fl32_zero : fl32 0 = 0 := flr_zero
theorem fl32_neg (x : ℚ) : fl32 (-x) = - fl32 x := flr_neg x
theorem fl32_nonneg {x : ℚ} (h : 0 ≤ x) : 0 ≤ fl32 x := flr_nonneg h
theorem fl32_nonpos {x : ℚ} (h : x ≤ 0) : fl32 x ≤ 0 := flr_nonpos h
theorem fl32_mono {x y : ℚ} (h : x ≤ y) : fl32 x ≤ fl32 y := flr_mono (by norm_num) h
theorem fl32_idem (x : ℚ) : fl32 (fl32 x) = fl32 x := flr_idem (by norm_num) x
theorem rep32_fl32 (x : ℚ) : Rep32 (fl32 x) := fl32_idem x

theorem rep32_intCast (n : Int) (h : |n| ≤ 2 ^ 24) : Rep32 (n : ℚ) :=
  rep_intCast (by norm_num) (by norm_num) n h

theorem fl32_intCast (n : Int) (h : |n| ≤ 2 ^ 24) : fl32 (n : ℚ) = n := rep32_intCast n h

theorem rep32_pow2 (e : Int) (h : -149 ≤ e) : Rep32 (pow2 e) :=
  rep_pow2 (by norm_num) e (by norm_num; exact h)

theorem fl32_le_of_le_rep {x r : ℚ} (hr : Rep32 r) (h : x ≤ r) : fl32 x ≤ r :=
  flr_le_of_le_rep (by norm_num) hr h

theorem le_fl32_of_rep_le {x r : ℚ} (hr : Rep32 r) (h : r ≤ x) : r ≤ fl32 x :=
  le_flr_of_rep_le (by norm_num) hr h

theorem fl32_rel_err {x : ℚ} (h : pow2 (-126) ≤ |x|) : |fl32 x - x| ≤ pow2 (-24) * |x| :=
  flr_rel_err (prec := 24) h

theorem fl32_abs_err_sub (x : ℚ) (h : |x| < pow2 (-126)) : |fl32 x - x| ≤ pow2 (-150) :=
  flr_abs_err_sub (prec := 24) (emin := -126) x h

theorem fl64_fl32 (x : ℚ) : fl64 (fl32 x) = fl32 x := rep32_rep64 (rep32_fl32 x)

/-- `s < 2^(e+1)`, and the unit in the last place of `s` is at least `2^(e-23)`. The exponent 30 is a
    choice: this needs 26 or more, and the smaller it is the more binary64 error the callers can
    absorb. -/
theorem mul_pow2_lt_quarter_ulp32 {s : ℚ} (hs : 0 < s) :
    s * pow2 (-30) < pow2 (ulpExp 24 (-126) s) / 4 := by
  obtain ⟨-, se2⟩ := ilog2_spec hs
  have hk : ilog2 s - 23 ≤ ulpExp 24 (-126) s := by rw [ulpExp_def]; push_cast; omega
  have h1 : s * pow2 (-30) < pow2 (ilog2 s + 1) * pow2 (-30) :=
    mul_lt_mul_of_pos_right se2 (pow2_pos _)
  have h3 : pow2 (ilog2 s + 1 + -30) ≤ pow2 (ulpExp 24 (-126) s - 1 - 1) := pow2_mono (by omega)
  rw [pow2_add, pow2_pred, pow2_pred] at h3
  linarith

theorem fl32_le_of_near {s z : ℚ} (hs : Rep32 s) (h0 : 0 ≤ s) (hz : z ≤ s + s * pow2 (-30)) :
    fl32 z ≤ s := by
  rcases h0.eq_or_lt with rfl | hspos
  · exact fl32_le_of_le_rep hs (by simpa using hz)
  · exact flr_le_of_lt_half_ulp (by norm_num) hs hspos
      (by linarith [mul_pow2_lt_quarter_ulp32 hspos, pow2_pos (ulpExp 24 (-126) s)])

theorem le_fl32_of_near {s z : ℚ} (hs : Rep32 s) (h0 : 0 ≤ s) (hz : s - s * pow2 (-30) ≤ z) :
    s ≤ fl32 z := by
  rcases h0.eq_or_lt with rfl | hspos
  · exact fl32_nonneg (by simpa using hz)
  · exact le_flr_of_gt_sub_quarter_ulp (by norm_num) hs hspos
      (by linarith [mul_pow2_lt_quarter_ulp32 hspos])

theorem fl32_eq_of_near {s z : ℚ} (hs : Rep32 s) (h0 : 0 ≤ s) (h : |z - s| ≤ s * pow2 (-30)) :
    fl32 z = s :=
  have ⟨l, u⟩ := abs_le.mp h
  le_antisymm (fl32_le_of_near hs h0 (by linarith)) (le_fl32_of_near hs h0 (by linarith))

theorem fl32_fl64_add_le {y s p : ℚ} (hy0 : 0 ≤ y) (hs : Rep32 s) (hys : y ≤ s)
    (hp : p ≤ fl64 (s - y)) : fl32 (fl64 (y + p)) ≤ s := by
  have hs0 : 0 ≤ s := hy0.trans hys
  refine fl32_le_of_near hs hs0 ?_
  rcases hs0.eq_or_lt with rfl | hspos
  · obtain rfl : y = 0 := le_antisymm hys hy0
    rw [sub_zero, fl64_zero] at hp
    simpa using fl64_nonpos hp
  · -- a positive binary32 value is at least `2^-149`, so the absolute error `η = 2^-1075` of a
    -- float64 rounding is below `s/2^60`, and rounding any `w ∈ [0, 2s]` adds at most `s/2^50`
    have hsmall := hs.pos_ge hspos
    norm_num at hsmall
    have hη : pow2 (-1075) ≤ pow2 (-149) * pow2 (-60) := by
      rw [← pow2_add]; exact pow2_mono (by norm_num)
    rw [show pow2 (-60) = 1 / 2 ^ 60 from pow2_neg_natCast 60] at hη
    have hfl : ∀ {w : ℚ}, 0 ≤ w → w ≤ 2 * s → fl64 w ≤ w + s / 2 ^ 50 := fun {w} h0 h2 => by
      have := (abs_le.mp (fl64_err_le (z := w) (M := 2 * s) (by rwa [abs_of_nonneg h0]))).2
      rw [pow2_m53] at this
      linarith
    have h1 := hfl (w := s - y) (by linarith) (by linarith)
    have h2 := (fl64_mono (by linarith : y + p ≤ s + s / 2 ^ 50)).trans
      (hfl (by linarith) (by linarith))
    rw [show pow2 (-30) = 1 / 2 ^ 30 from pow2_neg_natCast 30]
    linarith

theorem f64Huge_def : f64Huge = pow2 1024 := rfl

theorem pow2_1023_lt_f64Huge : pow2 1023 < f64Huge := pow2_lt (by norm_num)

theorem two_pow_lt_f64Huge {n : Nat} (hn : n ≤ 1023) : (2 : ℚ) ^ n < f64Huge := by
  rw [← pow2_natCast_rat]
  exact (pow2_mono (by exact_mod_cast hn)).trans_lt pow2_1023_lt_f64Huge

/-- Overflow to ±Inf at magnitude `H`: what `F64.ofRat` does after `fl64` (`H = 2^1024`) and
    `F64.toF32` after `fl32` (`H = 2^128`). -/
def overflowAt (H r : ℚ) : F64 :=
  if H ≤ r then F64.inf false else if r ≤ -H then F64.inf true else F64.fin r

theorem ofRat_eq_overflowAt (x : ℚ) : F64.ofRat x = overflowAt f64Huge (fl64 x) := rfl

theorem toF32_fin (q : ℚ) : F64.toF32 (F64.fin q) = overflowAt f32Huge (fl32 q) := rfl

theorem overflowAt_fin {H r : ℚ} (h : |r| < H) : overflowAt H r = F64.fin r := by
  rw [abs_lt] at h
  rw [overflowAt, if_neg (not_le.mpr h.2), if_neg (not_le.mpr h.1)]

theorem ofRat_fin_of_abs_lt {x : ℚ} (h : |fl64 x| < f64Huge) : F64.ofRat x = F64.fin (fl64 x) :=
  (ofRat_eq_overflowAt x).trans (overflowAt_fin h)

theorem ofRat_fin_of_abs_le {x : ℚ} (h : |x| ≤ pow2 1023) : F64.ofRat x = F64.fin (fl64 x) :=
  ofRat_fin_of_abs_lt
    ((abs_fl64_le_of_abs_le_rep (rep64_pow2 1023 (by norm_num)) h).trans_lt pow2_1023_lt_f64Huge)

theorem ofRat_fin_of_abs_le_two_pow {x : ℚ} (n : Nat) (h : |x| ≤ 2 ^ n)
    (hn : n ≤ 1023 := by norm_num) : F64.ofRat x = F64.fin (fl64 x) :=
  ofRat_fin_of_abs_le (abs_le_pow2_of_le n h (by exact_mod_cast hn))

theorem ofRat_cases (x : ℚ) :
    (F64.ofRat x = F64.inf false ∧ f64Huge ≤ fl64 x) ∨
      (F64.ofRat x = F64.inf true ∧ fl64 x ≤ -f64Huge) ∨ F64.ofRat x = F64.fin (fl64 x) := by
  rw [ofRat_eq_overflowAt, overflowAt]
  split_ifs with h1 h2
  exacts [.inl ⟨rfl, h1⟩, .inr (.inl ⟨rfl, h2⟩), .inr (.inr rfl)]

/-- `q` is the value of a finite binary64 number. -/
def Fin64 (q : ℚ) : Prop := Rep64 q ∧ |q| < f64Huge

theorem fin64_zero : Fin64 0 := ⟨fl64_zero, by rw [abs_zero]; exact pow2_pos _⟩

theorem Fin64.neg {q : ℚ} (h : Fin64 q) : Fin64 (-q) :=
  ⟨h.1.neg, by rw [abs_neg]; exact h.2⟩

/-- `hr` reads `fl64 q = q` and not `Rep64 q`: for a literal `q` it is closed by `decide +kernel`
    (the witnesses of C08), which finds the `Decidable` instance of an equation in ℚ and none for
    the definition `Rep`. -/
theorem fin64_of_nonneg {q : ℚ} (h0 : 0 ≤ q) (hr : fl64 q = q) (hl : q < f64Huge) : Fin64 q :=
  ⟨hr, by rwa [abs_of_nonneg h0]⟩

theorem fin64_intCast {n : Int} (h : |n| ≤ 2 ^ 53) : Fin64 (n : ℚ) :=
  ⟨rep64_intCast n h,
    lt_of_le_of_lt (by exact_mod_cast h) (two_pow_lt_f64Huge (n := 53) (by norm_num))⟩

theorem fin64_one : Fin64 1 := by simpa using fin64_intCast (n := 1) (by norm_num)

theorem ofRat_of_fin64 {q : ℚ} (h : Fin64 q) : F64.ofRat q = F64.fin q := by
  have := ofRat_fin_of_abs_lt (x := q) (by rw [fl64_of_rep h.1]; exact h.2)
  rwa [fl64_of_rep h.1] at this

theorem ofRat_intCast {n : Int} (h : |n| ≤ 2 ^ 53) : F64.ofRat (n : ℚ) = F64.fin (n : ℚ) :=
  ofRat_of_fin64 (fin64_intCast h)

theorem ofInt_small {n : Int} (h : |n| ≤ 2 ^ 53) : F64.ofInt n = F64.fin (n : ℚ) :=
  ofRat_intCast h

theorem ofRat_zero : F64.ofRat 0 = F64.fin 0 := by
  simpa using ofRat_intCast (n := 0) (by norm_num)

-- once more under `F64.`; protected, so that `open F64` creates no ambiguity
protected theorem F64.ofRat_fin_of_abs_le {x : ℚ} (h : |x| ≤ pow2 1023) :
    F64.ofRat x = F64.fin (fl64 x) := Fan2go.ofRat_fin_of_abs_le h
protected theorem F64.ofRat_intCast {n : Int} (h : |n| ≤ 2 ^ 53) :
    F64.ofRat (n : ℚ) = F64.fin (n : ℚ) := Fan2go.ofRat_intCast h
protected theorem F64.ofInt_small {n : Int} (h : |n| ≤ 2 ^ 53) :
    F64.ofInt n = F64.fin (n : ℚ) := Fan2go.ofInt_small h

end Fan2go

#print axioms Fan2go.pow2_add
#print axioms Fan2go.ilog2_spec
#print axioms Fan2go.rne_mono
#print axioms Fan2go.rne_neg
#print axioms Fan2go.flr_mono
#print axioms Fan2go.flr_idem
#print axioms Fan2go.rep_intCast
#print axioms Fan2go.rep_pow2
#print axioms Fan2go.flr_abs_sub_le_ulp
#print axioms Fan2go.flr_rel_err
#print axioms Fan2go.flr_abs_err_sub
#print axioms Fan2go.flr_le_two_mul
#print axioms Fan2go.rep_half
#print axioms Fan2go.rep_sub_small
#print axioms Fan2go.rep_sub_sterbenz
#print axioms Fan2go.rep32_rep64
#print axioms Fan2go.fl64_mono
#print axioms Fan2go.fl64_intCast
#print axioms Fan2go.fl64_fl32
#print axioms Fan2go.ofRat_fin_of_abs_le
#print axioms Fan2go.ofRat_intCast
#print axioms Fan2go.ofInt_small
