-- root: imports every model, proof and property module
import Fan2go.F64.Basic
import Fan2go.F64.Lemmas
import Fan2go.F64.LemmasBasic
import Fan2go.F64.LemmasFl
import Fan2go.Generated.Access
import Fan2go.Generated.Facts
import Fan2go.Generated.Trans
import Fan2go.Model.Config
import Fan2go.Model.ControlLoop
import Fan2go.Model.Controller
import Fan2go.Model.Curves
import Fan2go.Model.Exec
import Fan2go.Model.Fan
import Fan2go.Model.Hwmon
import Fan2go.Model.InitLock
import Fan2go.Model.Lifecycle
import Fan2go.Model.Lockset
import Fan2go.Model.Perm
import Fan2go.Model.Persist
import Fan2go.Model.Sensor
import Fan2go.Model.Startup
import Fan2go.Model.Analysis
import Fan2go.Model.Util
import Fan2go.Model.Wiring
import Fan2go.Proofs.Config
import Fan2go.Proofs.ConfigEval
import Fan2go.Proofs.ControlLoops
import Fan2go.Proofs.ControllerCases
import Fan2go.Proofs.ControllerSteps
import Fan2go.Proofs.ControllerInv
import Fan2go.Proofs.CurveTable
import Fan2go.Proofs.CurveTree
import Fan2go.Proofs.Exec
import Fan2go.Proofs.F64Ops
import Fan2go.Proofs.FanLimits
import Fan2go.Proofs.Util
import Fan2go.Proofs.FnCurves
import Fan2go.Proofs.FoldMinMax
import Fan2go.Proofs.Hwmon
import Fan2go.Proofs.InitLock
import Fan2go.Proofs.Interp
import Fan2go.Proofs.Lifecycle
import Fan2go.Proofs.Linear
import Fan2go.Proofs.Lockset
import Fan2go.Proofs.MovingAvg
import Fan2go.Proofs.NoCrash
import Fan2go.Proofs.Persist
import Fan2go.Proofs.Rescale
import Fan2go.Proofs.Restore
import Fan2go.Proofs.Stall
import Fan2go.Proofs.Startup
import Fan2go.Proofs.Analysis
import Fan2go.Proofs.AnalysisAbs
import Fan2go.Proofs.AnalysisRuns
import Fan2go.Proofs.AnalysisSettle
import Fan2go.Proofs.ThirdParty
import Fan2go.Props.C01
import Fan2go.Props.C02
import Fan2go.Props.C03
import Fan2go.Props.C04
import Fan2go.Props.C05
import Fan2go.Props.C06
import Fan2go.Props.C07
import Fan2go.Props.C08
import Fan2go.Props.C09
import Fan2go.Props.C10
import Fan2go.Props.C11
import Fan2go.Props.C12
import Fan2go.Props.C13
import Fan2go.Props.C14
import Fan2go.Props.C15
import Fan2go.Props.C15b
import Fan2go.Props.C16
import Fan2go.Props.C17
import Fan2go.Props.C18
import Fan2go.Props.C19
import Fan2go.Props.C20
import Fan2go.Props.Facts
import Fan2go.Props.Trans
import Fan2go.Spec.Controller
import Fan2go.Proofs.PidLoop
import Fan2go.Proofs.PidSettle
import Fan2go.Proofs.PidSim
import Fan2go.Proofs.PidSimAll
import Fan2go.Proofs.PidWindup
import Fan2go.Props.C04pid
import Fan2go.Model.GoSem
import Fan2go.Generated.Trans2
import Fan2go.Props.Trans2FindClosest
import Fan2go.Props.Trans2Interp
import Fan2go.Props.Trans2Keys
import Fan2go.Props.Trans2Evaluate
import Fan2go.Generated.Trans3
import Fan2go.Props.Trans3Ops
import Fan2go.Props.GoMAttr
import Fan2go.Props.GoMRun
import Fan2go.Props.GoSemLemmas
import Fan2go.Props.Trans3A
import Fan2go.Props.Trans3B
import Fan2go.Props.Trans3FanOps
import Fan2go.Props.Trans3Fan
import Fan2go.Props.Trans3LeafOps
import Fan2go.Props.Trans3Leaf
import Fan2go.Props.Trans3FileFanOps
import Fan2go.Props.Trans3FileFan
import Fan2go.Props.Trans3Perm
import Fan2go.Props.Trans3Exec
import Fan2go.Props.Trans3CmdFanOps
import Fan2go.Props.Trans3CmdFan
import Fan2go.Props.Trans3InitOps
import Fan2go.Props.Trans3Init
import Fan2go.Model.FileIO
import Fan2go.Props.Trans3FileIO
import Fan2go.Props.Trans3RunInitOps
import Fan2go.Props.Trans3RunInit
